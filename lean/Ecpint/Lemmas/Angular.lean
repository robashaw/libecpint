/- what the table entries of Model/Angular.lean are, case by case, for any scalar (core Lean only) -/
import Ecpint.Model.Angular
namespace Ecpint.AngularLemmas
open Ecpint.Angular

variable {α : Type} [Flt α]

theorem wEntry_of_none (U : Nat → Nat → Nat → Nat → Nat → α) (P : Nat → Nat → Nat → α) (maxLam k l m lam idx : Nat)
    (h : wWritten maxLam k l m lam idx = none) : wEntry U P maxLam k l m lam idx = 0 := by
  unfold wEntry
  rw [h]

/-- the stored type-2 entry is the value of the `makeOmega` iteration that writes it last: the one that has the harmonic of
higher degree (for equal degrees, of the larger index) in the W table -/
theorem omegaEntry_eq_iter (U : Nat → Nat → Nat → Nat → Nat → α) (Wf : Nat → Nat → Nat → Nat → Nat → α)
    (k l m a ia b ib : Nat) :
    (b ≤ a ∧ omegaEntry U Wf k l m a ia b ib
        = omegaIter U Wf k l m a ia b (if ib ≥ b then ib - b else b - ib) (decide (ib < b))) ∨
    (a ≤ b ∧ omegaEntry U Wf k l m a ia b ib
        = omegaIter U Wf k l m b ib a (if ia ≥ a then ia - a else a - ia) (decide (ia < a))) := by
  unfold omegaEntry
  dsimp only
  by_cases c1 : a > b
  · rw [if_pos c1]
    exact Or.inl ⟨by omega, rfl⟩
  · rw [if_neg c1]
    by_cases c2 : a < b
    · rw [if_pos c2]
      exact Or.inr ⟨by omega, rfl⟩
    · rw [if_neg c2]
      by_cases c3 : ib > ia
      · rw [if_pos c3]
        exact Or.inr ⟨by omega, rfl⟩
      · rw [if_neg c3]
        exact Or.inl ⟨by omega, rfl⟩

end Ecpint.AngularLemmas
