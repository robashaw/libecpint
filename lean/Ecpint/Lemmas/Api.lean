/-
Helper lemmas for C04 that only depend on the model (Model/Api.lean) and the generated index data:
closed form of `H_START` (C integer division is exact here because i(i+1) is even), and `landIn` as a
plain list sum.
-/
import Ecpint.Model.Api
import Ecpint.Lemmas.FoldSum
import Mathlib.Tactic.Ring
import Mathlib.Tactic.LinearCombination

namespace Ecpint.Api

theorem tdiv_tri (a : Nat) :
    Int.tdiv ((9 * (a : Int)) * ((a : Int) + 1)) 2 * 2 = 9 * (a : Int) * ((a : Int) + 1) := by
  have h : (2 : Int) ∣ (a : Int) * ((a : Int) + 1) := by
    exact_mod_cast (Nat.even_mul_succ_self a).two_dvd
  rw [mul_assoc]
  exact Int.tdiv_mul_cancel (h.mul_left 9)

theorem two_mul_hStart (i j N : Nat) :
    2 * hStart i j N
      = 18 * (j : Int) + (18 * (N : Int) - 6) * i - 9 * (i : Int) * ((i : Int) + 1) - 6 := by
  have h := tdiv_tri i
  unfold hStart Gen.H_START
  linear_combination (-1 : Int) * h

theorem hStart_shift (a b N : Nat) : hStart a b N = hStart a a N + 9 * ((b : Int) - (a : Int)) := by
  unfold hStart Gen.H_START
  ring

theorem landIn_eq_sum {ι β} [DecidableEq ι] [AddCommMonoid β] (slot : ι) (acc : β)
    (cs : List (ι × β)) :
    landIn slot acc cs = acc + (cs.map fun c => if c.1 = slot then c.2 else 0).sum := by
  unfold landIn
  exact FoldSum.foldl_ite_add_eq_sum (fun c => c.1 = slot) (fun c => c.2) cs acc

end Ecpint.Api
