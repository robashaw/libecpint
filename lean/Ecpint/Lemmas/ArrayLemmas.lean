/- Reading an array with `a[i]!` after `push` and `setIfInBounds` (`set!`), and the tables the model builds by pushing one
   entry per loop step.  Core Lean only. -/
namespace Ecpint.ArrayLemmas

variable {α : Type} [Inhabited α]

theorem getBang_push_lt (a : Array α) (x : α) (i : Nat) (h : i < a.size) : (a.push x)[i]! = a[i]! := by
  rw [getElem!_pos (a.push x) i (by rw [Array.size_push]; omega), getElem!_pos a i h, Array.getElem_push_lt]

theorem getBang_push_eq (a : Array α) (x : α) : (a.push x)[a.size]! = x := by
  rw [getElem!_pos _ _ (by rw [Array.size_push]; omega), Array.getElem_push_eq]

theorem getBang_set (a : Array α) (i j : Nat) (v : α) :
    (a.setIfInBounds i v)[j]! = if i = j ∧ i < a.size then v else a[j]! := by
  simp only [Array.getElem!_eq_getD, Array.getD_eq_getD_getElem?, Array.getElem?_setIfInBounds]
  by_cases h : i = j
  · subst h
    by_cases h2 : i < a.size
    · simp [h2]
    · simp [h2]
  · simp [h]

theorem getBang_map_range {β : Type} [Inhabited β] (n : Nat) (f : Nat → β) (i : Nat) (hi : i < n) :
    ((Array.range n).map f)[i]! = f i := by
  rw [getElem!_pos _ _ (by rw [Array.size_map, Array.size_range]; exact hi), Array.getElem_map, Array.getElem_range]

theorem foldl_push (t : Nat → α) (step : Array α → Nat → α) (a0 : Array α) (h0 : ∀ i < a0.size, a0[i]! = t i)
    (hstep : ∀ (a : Array α) (k : Nat), a.size = a0.size + k → (∀ i < a.size, a[i]! = t i) → step a k = t a.size)
    (m : Nat) :
    ((List.range m).foldl (fun a k => a.push (step a k)) a0).size = a0.size + m ∧
    ∀ i < a0.size + m, ((List.range m).foldl (fun a k => a.push (step a k)) a0)[i]! = t i := by
  induction m with
  | zero => exact ⟨rfl, h0⟩
  | succ m ih =>
    obtain ⟨hs, hv⟩ := ih
    rw [List.range_succ, List.foldl_append, List.foldl_cons, List.foldl_nil]
    refine ⟨by rw [Array.size_push, hs, Nat.add_assoc], fun i hi => ?_⟩
    by_cases h : i < a0.size + m
    · rw [getBang_push_lt _ _ _ (hs ▸ h)]
      exact hv i h
    · have e : i = ((List.range m).foldl (fun a k => a.push (step a k)) a0).size := by omega
      rw [e, getBang_push_eq]
      exact hstep _ m hs (hs ▸ hv)

end Ecpint.ArrayLemmas
