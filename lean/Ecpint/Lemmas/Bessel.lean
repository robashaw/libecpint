/-
Helper lemmas for C14: the `List.range`/`List.foldl` loops of Ecpint/Model/Bessel.lean as closed forms (running sums, the
asymptotic polynomial and its coefficients a_k, `setRange`), and the derivative recurrence of `derivRows` iterated on a row
(`dRec`), which is linear in the row.
-/
import Ecpint.Model.Bessel
import Ecpint.Lemmas.ArrayLemmas
import Mathlib.Tactic.Ring
import Mathlib.Tactic.FieldSimp
import Mathlib.Algebra.BigOperators.Group.Finset.Basic

namespace Ecpint.BesselLemmas
open scoped Nat

section
variable {α : Type} [Inhabited α]

open Ecpint.Bessel

theorem setRange_foldl (val : ℕ → α) (init : Array α) (m : ℕ) :
    ((List.range m).foldl (fun (v : Array α) l => v.set! l (val l)) init).size = init.size ∧
    ∀ l, l < init.size →
      ((List.range m).foldl (fun (v : Array α) l => v.set! l (val l)) init)[l]! = if l < m then val l else init[l]! := by
  induction m with
  | zero => simp
  | succ m ih =>
    obtain ⟨hs, hv⟩ := ih
    rw [List.range_succ, List.foldl_append]
    simp only [List.foldl_cons, List.foldl_nil, Array.set!_eq_setIfInBounds, Array.size_setIfInBounds]
    simp only [Array.set!_eq_setIfInBounds] at hs hv
    refine ⟨hs, fun l hl => ?_⟩
    rw [ArrayLemmas.getBang_set, hs, hv l hl]
    by_cases h : m = l
    · subst h
      rw [if_pos ⟨rfl, hl⟩, if_pos (Nat.lt_succ_self _)]
    · have hlt : l < m + 1 ↔ l < m := by omega
      rw [if_neg fun hc => h hc.1]
      simp only [hlt]

theorem setRange_size (init : Array α) (maxL : ℕ) (val : ℕ → α) : (setRange init maxL val).size = init.size :=
  (setRange_foldl val init (maxL + 1)).1

theorem setRange_get (init : Array α) (maxL : ℕ) (val : ℕ → α) (l : ℕ) (hl : l ≤ maxL) (hmax : maxL < init.size) :
    (setRange init maxL val)[l]! = val l := by
  have := (setRange_foldl val init (maxL + 1)).2 l (by omega)
  rw [if_pos (by omega)] at this
  exact this

theorem setRange_get_other (init : Array α) (maxL : ℕ) (val : ℕ → α) (l : ℕ) (hl : maxL < l) :
    (setRange init maxL val)[l]! = init[l]! := by
  by_cases h : l < init.size
  · have := (setRange_foldl val init (maxL + 1)).2 l h
    rw [if_neg (by omega)] at this
    exact this
  · rw [getElem!_neg (setRange init maxL val) l (by rw [setRange_size]; exact h), getElem!_neg init l h]

end

section
variable {K : Type} [Field K]

theorem foldl_mul_const (a c : K) (L : ℕ) :
    (List.range L).foldl (fun v _ => v * c) a = a * c ^ L := by
  induction L with
  | zero => simp
  | succ L ih =>
    rw [List.range_succ, List.foldl_append, ih, pow_succ]
    simp [mul_assoc]

theorem pow_div_factorial_succ (dz : K) (n : ℕ) :
    dz ^ n / (n ! : K) * (dz / ((n + 1 : ℕ) : K)) = dz ^ (n + 1) / ((n + 1)! : K) := by
  rw [div_mul_div_comm, ← pow_succ, Nat.factorial_succ, Nat.cast_mul, mul_comm ((n + 1 : ℕ) : K)]

theorem foldl_dzn (dz : K) (n : ℕ) :
    (List.range n).foldl (fun d i => d * dz / ((i + 1 : ℕ) : K)) (1 : K) = dz ^ n / (n ! : K) := by
  induction n with
  | zero => simp
  | succ n ih =>
    rw [List.range_succ, List.foldl_append, ih]
    simp only [List.foldl_cons, List.foldl_nil]
    rw [mul_div_assoc, pow_div_factorial_succ]

theorem foldl_taylorOne (dz : K) (c : ℕ → K) (m : ℕ) :
    (List.range m).foldl (fun (acc : K × K) n =>
      (acc.1 + acc.2 * c n, acc.2 * (dz / ((n + 1 : ℕ) : K)))) ((0 : K), (1 : K))
      = (∑ n ∈ Finset.range m, dz ^ n / (n ! : K) * c n, dz ^ m / (m ! : K)) := by
  induction m with
  | zero => simp
  | succ m ih =>
    rw [List.range_succ, List.foldl_append, ih, Finset.sum_range_succ]
    simp only [List.foldl_cons, List.foldl_nil, pow_div_factorial_succ]

/-- coefficient of the asymptotic polynomial of order l: a_k = (l+k)(l+k−1)⋯(l−k+1)/k!, which is (l+k)!/(k!(l−k)!) for k ≤ l and
0 beyond, so that the three-term recurrence `BesselReal.aCoef_rec` in l holds for every k -/
def aCoef (l k : ℕ) : K := ((l + k).descFactorial (2 * k) : K) / (k ! : K)

theorem aCoef_zero (l : ℕ) : (aCoef l 0 : K) = 1 := by
  simp [aCoef]

theorem aCoef_of_lt (l k : ℕ) (h : l < k) : (aCoef l k : K) = 0 := by
  rw [aCoef, Nat.descFactorial_of_lt (by omega), Nat.cast_zero, zero_div]

/-- the ratio of consecutive coefficients, written as the large-argument loops form `cof_{k+1}` -/
theorem aCoef_succ (l k : ℕ) (h : k + 1 ≤ l) :
    (aCoef l (k + 1) : K) = aCoef l k * ((((l - (k + 1) + 1) * (l + (k + 1)) : ℕ) : K) / ((k + 1 : ℕ) : K)) := by
  unfold aCoef
  rw [show l + (k + 1) = l + k + 1 by omega, show 2 * (k + 1) = 2 * k + 1 + 1 by omega, Nat.succ_descFactorial_succ,
    Nat.descFactorial_succ, show l + k - 2 * k = l - (k + 1) + 1 by omega, Nat.factorial_succ, div_mul_div_comm,
    ← Nat.cast_mul, ← Nat.cast_mul, mul_comm k !]
  congr 2
  ring

theorem foldl_largeAll (v0 : K) (l n : ℕ) (hn : n ≤ l) :
    (List.range n).foldl (fun (acc : K × K) i =>
      (acc.1 + acc.2 * (-((((l - (i + 1) + 1) * (l + (i + 1)) : ℕ) : K) / ((i + 1 : ℕ) : K)) * v0),
       acc.2 * (-((((l - (i + 1) + 1) * (l + (i + 1)) : ℕ) : K) / ((i + 1 : ℕ) : K)) * v0)))
      ((1 : K), (1 : K))
      = (∑ k ∈ Finset.range (n + 1), aCoef l k * (-v0) ^ k, aCoef l n * (-v0) ^ n) := by
  induction n with
  | zero => simp [aCoef_zero]
  | succ n ih =>
    rw [List.range_succ, List.foldl_append, ih (Nat.le_of_succ_le hn), Finset.sum_range_succ _ (n + 1)]
    simp only [List.foldl_cons, List.foldl_nil]
    have e : aCoef l n * (-v0) ^ n * (-((((l - (n + 1) + 1) * (l + (n + 1)) : ℕ) : K) / ((n + 1 : ℕ) : K)) * v0)
        = aCoef l (n + 1) * (-v0) ^ (n + 1) := by
      rw [aCoef_succ l n hn, pow_succ]
      ring
    rw [e]

theorem largeAll_eq_sum (v : K) (l : ℕ) :
    Bessel.largeAll v l = v * ∑ k ∈ Finset.range (l + 1), aCoef l k * (-v) ^ k := by
  unfold Bessel.largeAll
  simp only
  rw [foldl_largeAll v l l le_rfl]

theorem largeAll_zero (v : K) : Bessel.largeAll v 0 = v := by
  rw [largeAll_eq_sum, Finset.sum_range_one, aCoef_zero, pow_zero, mul_one, mul_one]

/-- in ℕ the factor is the truncated `n - j`; where the truncation matters both sides vanish -/
theorem cast_descFactorial_succ (n j : ℕ) : ((n.descFactorial (j + 1) : ℕ) : K) = ((n : K) - j) * n.descFactorial j := by
  rw [Nat.descFactorial_succ, Nat.cast_mul]
  rcases le_or_gt j n with h | h
  · rw [Nat.cast_sub h]
  · rw [Nat.descFactorial_of_lt h, Nat.cast_zero, mul_zero, mul_zero]

end

section
variable {K : Type} [Field K] [CharZero K]

theorem facK_ne (n : ℕ) : ((n ! : ℕ) : K) ≠ 0 := Nat.cast_ne_zero.mpr (Nat.factorial_ne_zero n)

theorem aCoef_eq_factorial (l k : ℕ) (h : k ≤ l) : (aCoef l k : K) = ((l + k)! : K) / ((k ! : K) * ((l - k)! : K)) := by
  rw [aCoef, ← Nat.factorial_mul_descFactorial (show 2 * k ≤ l + k by omega), show l + k - 2 * k = l - k by omega,
    Nat.cast_mul, mul_comm (k ! : K), mul_div_mul_left _ _ (facK_ne _)]

end

section
variable {K : Type} [Field K]
open Ecpint.Bessel

/-- entry (n, l) of what the derivative recurrence of `tabulate` produces from a row k: row 0 is k, entry 0 of the next row is
`prev[1] − prev[0]`, entry l ≥ 1 is `recStep l prev[l−1] prev[l+1] prev[l]` -/
def dRec (k : ℕ → K) : ℕ → ℕ → K
  | 0, l => k l
  | n + 1, 0 => dRec k n 1 - dRec k n 0
  | n + 1, l + 1 => recStep (l + 1) (dRec k n l) (dRec k n (l + 2)) (dRec k n (l + 1))

theorem dRec_sub (k k' : ℕ → K) : ∀ n l, dRec k n l - dRec k' n l = dRec (fun l => k l - k' l) n l := by
  intro n
  induction n with
  | zero =>
    intro l
    rfl
  | succ n ih =>
    intro l
    rcases l with _ | l
    · simp only [dRec, ← ih]
      ring
    · simp only [dRec, ← ih, recStep]
      ring

/-- entry (n, l) reads the entries l … l + n of the row -/
theorem dRec_congr (k k' : ℕ → K) (top : ℕ) (hk : ∀ l ≤ top, k l = k' l) :
    ∀ n l, l + n ≤ top → dRec k n l = dRec k' n l := by
  intro n
  induction n with
  | zero =>
    intro l hl
    exact hk l (by omega)
  | succ n ih =>
    intro l hl
    rcases l with _ | l
    · simp only [dRec]
      rw [ih 1 (by omega), ih 0 (by omega)]
    · simp only [dRec]
      rw [ih l (by omega), ih (l + 2) (by omega), ih (l + 1) (by omega)]

end

end Ecpint.BesselLemmas
