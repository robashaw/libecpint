/-
Helper lemmas for C14b: the entire function G_l(w) = Σ_j w^j / (j! (2l+2j+1)!!) (so that i_l(z) = z^l G_l(z²/2)),
its derivative G_l' = G_{l+1} and recurrence G_l − 2w G_{l+2} = (2l+3) G_{l+1}; and the three-term recurrence
of the asymptotic polynomial `largeAll` (through its coefficients `aCoef` of Lemmas/Bessel.lean).
-/
import Ecpint.Lemmas.Bessel
import Mathlib.Analysis.Calculus.SmoothSeries
import Mathlib.Analysis.Calculus.Deriv.Pow
import Mathlib.Analysis.SpecialFunctions.Exponential
import Mathlib.Data.Nat.Factorial.DoubleFactorial

namespace Ecpint.BesselReal
open scoped Nat

/-- term j of G_l -/
noncomputable def gTerm (l j : ℕ) (w : ℝ) : ℝ := w ^ j / (j ! : ℝ) / (((2 * l + 2 * j + 1)‼ : ℕ) : ℝ)

noncomputable def G (l : ℕ) (w : ℝ) : ℝ := ∑' j, gTerm l j w

theorem dfac_ge_one (n : ℕ) : (1 : ℝ) ≤ ((n‼ : ℕ) : ℝ) := by
  exact_mod_cast Nat.doubleFactorial_pos n

theorem dfac_pos (n : ℕ) : (0 : ℝ) < ((n‼ : ℕ) : ℝ) := lt_of_lt_of_le one_pos (dfac_ge_one n)

theorem fac_pos (n : ℕ) : (0 : ℝ) < ((n ! : ℕ) : ℝ) := by exact_mod_cast Nat.factorial_pos n

theorem gTerm_abs_le (l j : ℕ) (w : ℝ) : |gTerm l j w| ≤ |w| ^ j / (j ! : ℝ) := by
  unfold gTerm
  rw [abs_div, abs_div, abs_pow, abs_of_pos (fac_pos j), abs_of_pos (dfac_pos _)]
  exact div_le_self (by positivity) (dfac_ge_one _)

theorem gTerm_summable (l : ℕ) (w : ℝ) : Summable (gTerm l · w) :=
  Summable.of_norm_bounded (Real.summable_pow_div_factorial |w|) (fun j => by
    rw [Real.norm_eq_abs]
    exact gTerm_abs_le l j w)

theorem gTerm_hasSum (l : ℕ) (w : ℝ) : HasSum (gTerm l · w) (G l w) := (gTerm_summable l w).hasSum

theorem gTerm_zero (l : ℕ) (w : ℝ) : gTerm l 0 w = 1 / (((2 * l + 1)‼ : ℕ) : ℝ) := by
  simp [gTerm]

theorem gTerm_hasSum_succ (l : ℕ) (w : ℝ) : HasSum (fun j => gTerm l (j + 1) w) (G l w - gTerm l 0 w) := by
  have h := (hasSum_nat_add_iff' 1).mpr (gTerm_hasSum l w)
  rwa [Finset.sum_range_one] at h

theorem gTerm_succ_l (l j : ℕ) (w : ℝ) : gTerm (l + 1) j w = gTerm l j w / (2 * (l : ℝ) + 2 * (j : ℝ) + 3) := by
  unfold gTerm
  rw [show 2 * (l + 1) + 2 * j + 1 = 2 * l + 2 * j + 1 + 2 by ring, Nat.doubleFactorial_add_two, div_div _ (_‼ : ℝ)]
  push_cast
  ring

theorem gTerm_succ_j (l j : ℕ) (w : ℝ) :
    gTerm l (j + 1) w = gTerm l j w * (w / (((j : ℝ) + 1) * (2 * (l : ℝ) + 2 * (j : ℝ) + 3))) := by
  have ha : ((2 * l + 2 * j + 1 + 2 : ℕ) : ℝ) = 2 * (l : ℝ) + 2 * (j : ℝ) + 3 := by
    push_cast
    ring
  unfold gTerm
  rw [show 2 * l + 2 * (j + 1) + 1 = 2 * l + 2 * j + 1 + 2 by ring, Nat.doubleFactorial_add_two, Nat.factorial_succ, pow_succ,
    Nat.cast_mul, Nat.cast_mul, ha, Nat.cast_succ]
  generalize (j : ℝ) + 1 = p
  generalize 2 * (l : ℝ) + 2 * (j : ℝ) + 3 = a
  ring

theorem gTerm_hasDerivAt_succ (l j : ℕ) (w : ℝ) : HasDerivAt (gTerm l (j + 1)) (gTerm (l + 1) j w) w := by
  have h := ((hasDerivAt_pow (j + 1) w).div_const ((j + 1)! : ℝ)).div_const (((2 * l + 2 * (j + 1) + 1)‼ : ℕ) : ℝ)
  refine h.congr_deriv ?_
  have hj : ((j + 1 : ℕ) : ℝ) ≠ 0 := Nat.cast_ne_zero.mpr (Nat.succ_ne_zero j)
  unfold gTerm
  rw [show 2 * (l + 1) + 2 * j + 1 = 2 * l + 2 * (j + 1) + 1 by ring, Nat.add_sub_cancel, Nat.factorial_succ, Nat.cast_mul,
    mul_div_mul_left _ _ hj]

theorem G_hasDerivAt (l : ℕ) (w : ℝ) : HasDerivAt (G l) (G (l + 1) w) w := by
  -- term 0 is constant; the others are differentiated term by term on the ball of radius |w| + 1, where term j of the
  -- derived series is below (|w| + 1)^j / j!
  have hg' : ∀ j y, y ∈ Metric.ball (0 : ℝ) (|w| + 1) → ‖gTerm (l + 1) j y‖ ≤ (|w| + 1) ^ j / (j ! : ℝ) := by
    intro j y hy
    rw [Metric.mem_ball, Real.dist_eq, sub_zero] at hy
    refine (gTerm_abs_le (l + 1) j y).trans ?_
    gcongr
  have hw : w ∈ Metric.ball (0 : ℝ) (|w| + 1) := by
    rw [Metric.mem_ball, Real.dist_eq, sub_zero]
    exact lt_add_one _
  have main := hasDerivAt_tsum_of_isPreconnected (Real.summable_pow_div_factorial (|w| + 1)) Metric.isOpen_ball
    (convex_ball (0 : ℝ) (|w| + 1)).isPreconnected (fun j y _ => gTerm_hasDerivAt_succ l j y) hg'
    (Metric.mem_ball_self (by positivity)) (gTerm_hasSum_succ l 0).summable hw
  have e : G l = fun w => gTerm l 0 w + ∑' j, gTerm l (j + 1) w := funext fun w => (gTerm_summable l w).tsum_eq_zero_add
  rw [e]
  simp only [gTerm_zero]
  exact main.const_add _

theorem gTerm_rec (l j : ℕ) (w : ℝ) :
    gTerm l (j + 1) w - 2 * w * gTerm (l + 2) j w = (2 * (l : ℝ) + 3) * gTerm (l + 1) (j + 1) w := by
  have hb : 2 * ((l + 1 : ℕ) : ℝ) + 2 * (j : ℝ) + 3 ≠ 0 := by positivity
  have hj : (j : ℝ) + 1 ≠ 0 := by positivity
  rw [gTerm_succ_l (l + 1), gTerm_succ_j (l + 1), gTerm_succ_l, gTerm_succ_j]
  generalize gTerm l j w = t
  push_cast at hb ⊢
  field_simp
  ring

theorem G_rec (l : ℕ) (w : ℝ) : G l w - 2 * w * G (l + 2) w = (2 * (l : ℝ) + 3) * G (l + 1) w := by
  have hL := (gTerm_hasSum_succ l w).sub ((gTerm_hasSum (l + 2) w).mul_left (2 * w))
  have hR := (gTerm_hasSum_succ (l + 1) w).mul_left (2 * (l : ℝ) + 3)
  have h := hL.unique (hR.congr_fun (fun j => (gTerm_rec l j w)))
  have e0 : gTerm l 0 w = (2 * (l : ℝ) + 3) * gTerm (l + 1) 0 w := by
    have h3 : 2 * (l : ℝ) + 3 ≠ 0 := by positivity
    rw [gTerm_succ_l, Nat.cast_zero, mul_zero, add_zero, mul_div_cancel₀ _ h3]
  linarith only [h, e0]

theorem gTerm_nonneg (l j : ℕ) (w : ℝ) (hw : 0 ≤ w) : 0 ≤ gTerm l j w := by
  unfold gTerm
  have := fac_pos j
  have := dfac_pos (2 * l + 2 * j + 1)
  positivity

theorem G_sub_le (l : ℕ) (w : ℝ) (hw : 0 ≤ w) :
    |G l w - 1 / (((2 * l + 1)‼ : ℕ) : ℝ)| ≤ Real.exp w - 1 := by
  have h1 := gTerm_hasSum_succ l w
  have h2 : HasSum (fun j => w ^ (j + 1) / (((j + 1)! : ℕ) : ℝ)) (Real.exp w - 1) := by
    have h := NormedSpace.expSeries_div_hasSum_exp w
    rw [← Real.exp_eq_exp_ℝ] at h
    simpa using (hasSum_nat_add_iff' 1).mpr h
  rw [← gTerm_zero l w, abs_of_nonneg (h1.nonneg (fun j => gTerm_nonneg l (j + 1) w hw))]
  refine hasSum_le (fun j => ?_) h1 h2
  have := le_trans (le_abs_self _) (gTerm_abs_le l (j + 1) w)
  rwa [abs_of_nonneg hw] at this

theorem G_at_zero (l : ℕ) : G l 0 = 1 / (((2 * l + 1)‼ : ℕ) : ℝ) := by
  have h := G_sub_le l 0 le_rfl
  rw [Real.exp_zero, sub_self] at h
  exact sub_eq_zero.1 (abs_nonpos_iff.1 h)

section
variable {K : Type} [Field K] [CharZero K]
open Ecpint.Bessel Ecpint.BesselLemmas

theorem aCoef_rec (l k : ℕ) :
    (aCoef (l + 2) (k + 1) : K) = aCoef l (k + 1) + 2 * (2 * (l : K) + 3) * aCoef (l + 1) k := by
  have h1 := facK_ne (K := K) k
  have h3 : ((k : K) + 1) ≠ 0 := by exact_mod_cast Nat.succ_ne_zero k
  unfold aCoef
  -- with n = l + k + 1 the three falling factorials are (n+2)(n+1) D, (l+1−k)(l−k) D and D = n(n−1)⋯(n−2k+1)
  rw [show l + 2 + (k + 1) = l + 1 + k + 1 + 1 by omega, show l + (k + 1) = l + 1 + k by omega,
    show 2 * (k + 1) = 2 * k + 1 + 1 by omega, Nat.succ_descFactorial_succ, Nat.succ_descFactorial_succ,
    cast_descFactorial_succ, cast_descFactorial_succ, Nat.factorial_succ]
  push_cast
  field_simp
  ring

theorem aSum_rec (x : K) (l : ℕ) :
    ∑ k ∈ Finset.range (l + 3), aCoef (l + 2) k * x ^ k
      = ∑ k ∈ Finset.range (l + 1), aCoef l k * x ^ k
        + 2 * (2 * (l : K) + 3) * x * ∑ k ∈ Finset.range (l + 2), aCoef (l + 1) k * x ^ k := by
  -- S_l with its two vanishing terms k = l + 1, l + 2; then term by term from k = 1 on
  have h0 : ∑ k ∈ Finset.range (l + 1), (aCoef l k : K) * x ^ k = ∑ k ∈ Finset.range (l + 3), aCoef l k * x ^ k := by
    rw [Finset.sum_range_succ _ (l + 2), Finset.sum_range_succ _ (l + 1), aCoef_of_lt l (l + 1) (by omega),
      aCoef_of_lt l (l + 2) (by omega), zero_mul, zero_mul, add_zero, add_zero]
  rw [h0, Finset.sum_range_succ' _ (l + 2), Finset.sum_range_succ' _ (l + 2), aCoef_zero, aCoef_zero, Finset.mul_sum,
    add_right_comm, ← Finset.sum_add_distrib]
  congr 1
  refine Finset.sum_congr rfl fun k _ => ?_
  rw [aCoef_rec, pow_succ]
  ring

theorem largeAll_rec (v : K) (l : ℕ) :
    largeAll v (l + 2) = largeAll v l - 2 * (2 * (l : K) + 3) * v * largeAll v (l + 1) := by
  rw [largeAll_eq_sum, largeAll_eq_sum, largeAll_eq_sum, aSum_rec (-v) l]
  ring

theorem aCoef_nonneg (l k : ℕ) : (0 : ℝ) ≤ aCoef l k := by
  unfold aCoef
  positivity

theorem aCoef_le_succ (l k : ℕ) : (aCoef l k : ℝ) ≤ aCoef (l + 1) k :=
  div_le_div_of_nonneg_right (Nat.cast_le.2 (Nat.descFactorial_le _ (by omega))) (Nat.cast_nonneg _)

theorem aSum_mono (x : ℝ) (hx : 0 ≤ x) : Monotone fun l => ∑ k ∈ Finset.range (l + 1), (aCoef l k : ℝ) * x ^ k := by
  refine monotone_nat_of_le_succ fun l => ?_
  rw [Finset.sum_range_succ _ (l + 1)]
  refine le_add_of_le_of_nonneg (Finset.sum_le_sum fun k _ => ?_) (mul_nonneg (aCoef_nonneg _ _) (pow_nonneg hx _))
  exact mul_le_mul_of_nonneg_right (aCoef_le_succ l k) (pow_nonneg hx k)

theorem largeAll_one (v : K) : largeAll v 1 = v * (1 - 2 * v) := by
  rw [largeAll_eq_sum, Finset.sum_range_succ, Finset.sum_range_succ, Finset.sum_range_zero]
  have h1 : (aCoef 1 1 : K) = 2 := by norm_num [aCoef, Nat.descFactorial]
  rw [aCoef_zero, h1]
  ring

end

end Ecpint.BesselReal
