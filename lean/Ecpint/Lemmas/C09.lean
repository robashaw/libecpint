/- for Props/C09.lean and Props/C01c, C01d, C01f: filtered sums over nested flatMaps, sums with a single non-zero term -/
import Ecpint.Lemmas.Contraction
namespace Ecpint.C09Lemmas
open Ecpint.ContractionLemmas

variable {K : Type} [CommSemiring K]

def fsum {α : Type} (p : α → Bool) (g : α → K) (l : List α) : K := ((l.filter p).map g).sum

theorem fsum_nil {α : Type} (p : α → Bool) (g : α → K) : fsum p g [] = 0 := rfl

theorem fsum_append {α : Type} (p : α → Bool) (g : α → K) (l1 l2 : List α) :
    fsum p g (l1 ++ l2) = fsum p g l1 + fsum p g l2 := by
  simp [fsum]

theorem fsum_flatMap {α β : Type} (p : α → Bool) (g : α → K) (l : List β) (f : β → List α) :
    fsum p g (l.flatMap f) = (l.map fun x => fsum p g (f x)).sum := by
  induction l with
  | nil => rfl
  | cons x l ih => simp only [List.flatMap_cons, fsum_append, ih, List.map_cons, List.sum_cons]

theorem fsum_ite {α : Type} (p : α → Bool) (g : α → K) (c : Bool) (l : List α) :
    fsum p g (if c then l else []) = if c then fsum p g l else 0 := by
  cases c <;> rfl

theorem fsum_map {α β : Type} (p : α → Bool) (g : α → K) (l : List β) (h : β → α) :
    fsum p g (l.map h) = (l.map fun x => if p (h x) then g (h x) else 0).sum := by
  unfold fsum
  rw [sum_filter_map, List.map_map]
  rfl

theorem sum_map_eq_zero {α : Type} {l : List α} {f : α → K} (h : ∀ x ∈ l, f x = 0) : (l.map f).sum = 0 := by
  rw [sum_map_congr h, List.sum_map_zero]

theorem fsum_eq_zero {α : Type} (p : α → Bool) (g : α → K) (l : List α) (h : ∀ t ∈ l, p t = false) :
    fsum p g l = 0 := by
  unfold fsum
  rw [sum_filter_map]
  exact sum_map_eq_zero (fun x hx => by simp [h x hx])

theorem fsum_filter_drop {α : Type} (q p : α → Bool) (g : α → K) (l : List α) (h : ∀ x, q x = false → g x = 0) :
    fsum p g (l.filter q) = fsum p g l := by
  unfold fsum
  rw [List.filter_comm, sum_filter_drop _ q g fun x _ hq => h x hq]

theorem sum_zipIdx_single {α : Type} (l : List α) (n : Nat) (F : α × Nat → K) (hn : n < l.length)
    (hF : ∀ p ∈ l.zipIdx, p.2 ≠ n → F p = 0) : (l.zipIdx.map F).sum = F (l[n], n) := by
  induction l generalizing n F with
  | nil => exact absurd hn (Nat.not_lt_zero n)
  | cons x l ih =>
    -- the tail of `(x :: l).zipIdx` is `l.zipIdx` with the positions shifted by one
    rw [List.zipIdx_cons'] at hF
    rw [List.zipIdx_cons', List.map_cons, List.sum_cons, List.map_map]
    have htail : ∀ p ∈ l.zipIdx, p.2 + 1 ≠ n → (F ∘ Prod.map id (· + 1)) p = 0 := fun p hp =>
      hF _ (List.mem_cons_of_mem _ (List.mem_map_of_mem hp))
    cases n with
    | zero =>
      rw [sum_map_eq_zero fun p hp => htail p hp (Nat.succ_ne_zero _), add_zero]
      rfl
    | succ n =>
      rw [hF (x, 0) List.mem_cons_self (Nat.succ_ne_zero n).symm, zero_add]
      exact ih n _ (Nat.lt_of_succ_lt_succ hn) fun p hp hne => htail p hp fun h => hne (Nat.succ.inj h)

end Ecpint.C09Lemmas
