/-
Lemmas about the concurrency model (Model/Conc.lean) for Props/C10.lean: a step reads and writes only what its thread's
program says (`exec_congr`, `exec_frame`); hence every schedule keeps, for every thread, what its solo run from the initial
memory will have read (`Inv`, `inv_run`); a count of the instructions still to run shows which schedules let all threads finish.
-/
import Ecpint.Model.Conc

namespace Ecpint.Conc

theorem exec_nil (m : Mem) (t : Thread) (h : t.rest = []) : exec m t = (m, t) := by
  unfold exec
  rw [h]

theorem exec_rest (m : Mem) (t : Thread) : (exec m t).2.rest = t.rest.tail := by
  unfold exec
  split <;> simp_all

theorem exec_congr (m1 m2 : Mem) (t : Thread) (h : ∀ l ∈ Prog.reads t.rest, m1 l = m2 l) :
    (exec m1 t).2 = (exec m2 t).2 ∧ ∀ l, m1 l = m2 l → (exec m1 t).1 l = (exec m2 t).1 l := by
  unfold exec
  split
  · exact ⟨rfl, fun l hl => hl⟩
  · rename_i l r hr
    have : m1 l = m2 l := h l (by simp [hr, Prog.reads, Instr.reads])
    exact ⟨by simp [this], fun k hk => hk⟩
  · rename_i l f r hr
    refine ⟨rfl, fun k hk => ?_⟩
    by_cases hkl : k = l <;> simp [hkl, hk]

theorem exec_frame (m : Mem) (t : Thread) (l : Loc) (h : l ∉ Prog.writes t.rest) : (exec m t).1 l = m l := by
  unfold exec
  split
  · rfl
  · rfl
  · rename_i k f r hr
    have : l ≠ k := fun e => h (by simp [hr, Prog.writes, Instr.writes, e])
    simp [this]

theorem mem_flatMap_of_suffix {f : Instr → List Loc} {q p : Prog} (h : q <:+ p) {l : Loc} (hl : l ∈ q.flatMap f) :
    l ∈ p.flatMap f := by
  obtain ⟨a, ha, hla⟩ := List.mem_flatMap.1 hl
  exact List.mem_flatMap.2 ⟨a, h.subset ha, hla⟩

theorem alone_nil (m : Mem) (t : Thread) (h : t.rest = []) : alone m t = (m, t) := by
  unfold alone
  rw [h]
  rfl

theorem alone_step (m : Mem) (t : Thread) : alone m t = alone (exec m t).1 (exec m t).2 := by
  cases h : t.rest with
  | nil => rw [exec_nil m t h]
  | cons a r =>
    have hr : (exec m t).2.rest = r := (exec_rest m t).trans (congrArg List.tail h)
    unfold alone
    rw [h, hr]
    rfl

theorem alone_congr (m1 m2 : Mem) (t : Thread) (h : ∀ l ∈ Prog.reads t.rest, m1 l = m2 l) :
    (alone m1 t).2 = (alone m2 t).2 := by
  generalize hr : t.rest = r
  induction r generalizing m1 m2 t with
  | nil => rw [alone_nil m1 t hr, alone_nil m2 t hr]
  | cons a r ih =>
    obtain ⟨ht, hm⟩ := exec_congr m1 m2 t h
    have hrest : (exec m1 t).2.rest = r := (exec_rest m1 t).trans (congrArg List.tail hr)
    rw [alone_step m1, alone_step m2, ← ht]
    refine ih _ _ _ (fun l hl => hm l (h l ?_)) hrest
    rw [hrest] at hl
    exact mem_flatMap_of_suffix (hr ▸ List.suffix_cons a r) hl

/-- every thread is somewhere in its own program, and run alone from here, from the shared memory as it is now, it would
end having read exactly what its solo run from the initial memory reads.  (The invariant speaks of the thread's future,
not of how far it has come: no step count and no clause about the memory are needed.) -/
def Inv (m : Mem) (progs : List Prog) (c : Config) : Prop :=
  c.threads.length = progs.length ∧
  ∀ (i : Nat) (p : Prog), progs[i]? = some p → ∃ t, c.threads[i]? = some t ∧ t.rest <:+ p ∧
    (alone c.mem t).2 = (alone m { rest := p, trace := [] }).2

theorem inv_start (m : Mem) (progs : List Prog) : Inv m progs (start m progs) := by
  refine ⟨by simp [start], fun i p hp => ⟨{ rest := p, trace := [] }, ?_, List.suffix_refl p, rfl⟩⟩
  simp [start, hp]

/-- a step of thread `tid` is the first step of its own solo continuation (`alone_step`); for every other thread it
changes no location that thread will still read (`alone_congr`) — of Bernstein's condition only "not read by another
thread" is used -/
theorem inv_tick (m : Mem) (progs : List Prog) (hd : Disjoint progs) (c : Config) (tid : Nat)
    (hc : Inv m progs c) : Inv m progs (tick c tid) := by
  obtain ⟨hlen, hinv⟩ := hc
  unfold tick
  cases ht : c.threads[tid]? with
  | none => exact ⟨hlen, hinv⟩
  | some t =>
    have htid : tid < c.threads.length := (List.getElem?_eq_some_iff.mp ht).1
    obtain ⟨q, hq⟩ : ∃ q, progs[tid]? = some q := ⟨progs[tid], List.getElem?_eq_getElem (hlen ▸ htid)⟩
    obtain ⟨t', ht', hsuf, _⟩ := hinv tid q hq
    obtain rfl : t' = t := Option.some.inj (ht'.symm.trans ht)
    refine ⟨List.length_set.trans hlen, fun i p hp => ?_⟩
    obtain ⟨ti, hti, hsi, hai⟩ := hinv i p hp
    by_cases hi : i = tid
    · subst hi
      rw [ht] at hti
      cases hti
      refine ⟨_, List.getElem?_set_self htid, ?_, ?_⟩
      · rw [exec_rest]
        exact (List.tail_suffix _).trans hsi
      · rw [← hai, ← alone_step]
    · refine ⟨ti, (List.getElem?_set_ne (Ne.symm hi)).trans hti, hsi, ?_⟩
      rw [← hai]
      refine alone_congr _ _ ti fun l hl => exec_frame _ _ l fun hw => ?_
      exact (hd tid i (Ne.symm hi) q p hq hp l (mem_flatMap_of_suffix hsuf hw)).1 (mem_flatMap_of_suffix hsi hl)

theorem inv_run (m : Mem) (progs : List Prog) (hd : Disjoint progs) (sched : List Nat) (c : Config)
    (hc : Inv m progs c) : Inv m progs (run c sched) :=
  List.foldlRecOn sched tick hc fun c hc tid _ => inv_tick m progs hd c tid hc

def restLen (c : Config) (i : Nat) : Nat := ((c.threads[i]?).map fun t => t.rest.length).getD 0

theorem restLen_tick (c : Config) (tid i : Nat) :
    restLen (tick c tid) i = restLen c i - (if tid == i then 1 else 0) := by
  unfold tick restLen
  cases ht : c.threads[tid]? with
  | none =>
    by_cases h : tid = i
    · simp [← h, ht]
    · simp [h]
  | some t =>
    by_cases h : tid = i
    · subst h
      simp [List.getElem?_set_self (List.getElem?_eq_some_iff.mp ht).1, exec_rest, ht]
    · simp [List.getElem?_set_ne h, h]

theorem restLen_run (c : Config) (sched : List Nat) (i : Nat) :
    restLen (run c sched) i = restLen c i - sched.count i := by
  induction sched generalizing c with
  | nil => rfl
  | cons a s ih =>
    show restLen (run (tick c a) s) i = _
    rw [ih, restLen_tick, List.count_cons, Nat.sub_sub, Nat.add_comm]

theorem restLen_replicate_self (c : Config) (tid n : Nat) :
    restLen (run c (List.replicate n tid)) tid = restLen c tid - n := by
  rw [restLen_run, List.count_replicate_self]

theorem restLen_replicate_ne (c : Config) (tid n i : Nat) (h : i ≠ tid) :
    restLen (run c (List.replicate n tid)) i = restLen c i := by
  rw [restLen_run, List.count_replicate, if_neg (by simpa using Ne.symm h), Nat.sub_zero]

theorem restLen_start (m : Mem) (progs : List Prog) (i : Nat) :
    restLen (start m progs) i = (progs[i]?.getD []).length := by
  unfold restLen start
  cases h : progs[i]? <;> simp [h]

theorem finished_of_restLen (c : Config) (h : ∀ i, restLen c i = 0) : Finished c := by
  intro t ht
  obtain ⟨i, hi⟩ := List.getElem?_of_mem ht
  simpa [restLen, hi] using h i

theorem finished_of_count (m : Mem) (progs : List Prog) (sched : List Nat)
    (h : ∀ i, (progs[i]?.getD []).length ≤ sched.count i) : Finished (run (start m progs) sched) := by
  refine finished_of_restLen _ fun i => ?_
  rw [restLen_run, restLen_start]
  exact Nat.sub_eq_zero_of_le (h i)

theorem run_append (c : Config) (s1 s2 : List Nat) : run c (s1 ++ s2) = run (run c s1) s2 :=
  List.foldl_append

end Ecpint.Conc
