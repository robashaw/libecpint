/- generic lemmas for the contraction algebra: list sums, and loop nests that add into an array read
   as tables of explicit sums.  Every step of such a nest has the form `acc.mapIdx fun i v => v + g i` (it adds `g i` to
   entry `i`); a fold of such steps is again of that form, with the sums (`foldl_mapIdx_add`), so the nest is rewritten
   from the inside, as `FoldSum.foldl_add_eq_sum` does for a scalar accumulator, and on an array started at zero the
   result is the table of the sums (`replicate_mapIdx_add`). -/
import Ecpint.Model.Contraction
import Mathlib.Algebra.BigOperators.Group.List.Basic
import Mathlib.Algebra.BigOperators.Ring.List
import Mathlib.Algebra.Ring.Defs
namespace Ecpint.ContractionLemmas
open Ecpint.Contraction

variable {K : Type} [CommSemiring K]

theorem sum_map_congr {α : Type} {l : List α} {f g : α → K} (h : ∀ x ∈ l, f x = g x) :
    (l.map f).sum = (l.map g).sum := by
  rw [List.map_congr_left h]

theorem sum_map_mul_congr {α : Type} {l : List α} {c : K} {f' f : α → K} (h : ∀ x ∈ l, f' x = c * f x) :
    (l.map f').sum = c * (l.map f).sum := by
  rw [← List.sum_map_mul_left]
  exact sum_map_congr h

theorem sum_map_comm {α β : Type} (l1 : List α) (l2 : List β) (f : α → β → K) :
    (l1.map fun x => (l2.map fun y => f x y).sum).sum = (l2.map fun y => (l1.map fun x => f x y).sum).sum := by
  induction l1 with
  | nil => simp
  | cons x l ih =>
    simp only [List.map_cons, List.sum_cons, ih]
    rw [← List.sum_map_add]

theorem sum_filter_map {α : Type} (l : List α) (p : α → Bool) (f : α → K) :
    ((l.filter p).map f).sum = (l.map fun x => if p x then f x else 0).sum := by
  rw [List.sum_map_ite, List.sum_map_zero, add_zero]
  simp only [Bool.decide_eq_true]

theorem sum_filter_drop {α : Type} (l : List α) (p : α → Bool) (f : α → K) (h : ∀ x ∈ l, p x = false → f x = 0) :
    ((l.filter p).map f).sum = (l.map f).sum := by
  rw [sum_filter_map]
  refine sum_map_congr (fun x hx => ?_)
  cases hp : p x
  · simp [h x hx hp]
  · simp

theorem sum_map_flatMap {α β : Type} (l : List β) (f : β → List α) (g : α → K) :
    ((l.flatMap f).map g).sum = (l.map fun x => ((f x).map g).sum).sum := by
  induction l with
  | nil => rfl
  | cons x l ih => simp only [List.flatMap_cons, List.map_append, List.sum_append, ih, List.map_cons, List.sum_cons]

theorem sum_subIdx (c : Nat × Nat × Nat) (F : Nat × Nat × Nat → K) :
    ((subIdx c).map F).sum
      = ((List.range (c.1 + 1)).map fun ax => ((List.range (c.2.1 + 1)).map fun ay =>
          ((List.range (c.2.2 + 1)).map fun az => F (ax, ay, az)).sum).sum).sum := by
  unfold subIdx
  rw [sum_map_flatMap]
  refine sum_map_congr (fun ax _ => ?_)
  rw [sum_map_flatMap]
  refine sum_map_congr (fun ay _ => ?_)
  rw [List.map_map]
  rfl

theorem mul_sum_mul_sum {α β : Type} (c : K) (l1 : List α) (l2 : List β) (x : α → K) (y : β → K) :
    c * (l1.map x).sum * (l2.map y).sum = (l1.map fun i => (l2.map fun j => c * x i * y j).sum).sum := by
  simp only [List.sum_map_mul_left, List.sum_map_mul_right]

theorem sum_mul_sum_mul_sum {α β γ : Type} (l1 : List α) (l2 : List β) (l3 : List γ)
    (f : α → K) (g : β → K) (h : γ → K) :
    (l1.map f).sum * (l2.map g).sum * (l3.map h).sum
      = (l1.map fun a => (l2.map fun b => (l3.map fun c => f a * g b * h c).sum).sum).sum := by
  simp only [List.sum_map_mul_left, List.sum_map_mul_right]

theorem mapIdx_add_zero (acc : Array K) : (acc.mapIdx fun _ v => v + 0) = acc :=
  Array.ext Array.size_mapIdx fun i _ _ => by rw [Array.getElem_mapIdx, add_zero]

theorem foldl_mapIdx_add {α : Type} (l : List α) (g : α → Nat → K) (acc : Array K) :
    l.foldl (fun acc x => acc.mapIdx fun i v => v + g x i) acc
      = acc.mapIdx fun i v => v + (l.map fun x => g x i).sum := by
  induction l generalizing acc with
  | nil => exact (mapIdx_add_zero acc).symm
  | cons x l ih =>
    simp only [List.foldl_cons, ih, Array.mapIdx_mapIdx, List.map_cons, List.sum_cons]
    exact Array.mapIdx_eq_mapIdx_iff.mpr fun i _ => add_assoc _ _ _

theorem ite_mapIdx_add (b : Bool) (g : Nat → K) (acc : Array K) :
    (if b then acc.mapIdx fun i v => v + g i else acc) = acc.mapIdx fun i v => v + if b then g i else 0 := by
  cases b
  · exact (mapIdx_add_zero acc).symm
  · rfl

/-- the step `out[j] += c` -/
theorem setIfInBounds_getD_add (out : Array K) (j : Nat) (c : K) :
    out.setIfInBounds j (out.getD j 0 + c) = out.mapIdx fun i v => v + if j = i then c else 0 := by
  refine Array.ext (by rw [Array.size_setIfInBounds, Array.size_mapIdx]) fun i h1 _ => ?_
  rw [Array.size_setIfInBounds] at h1
  rw [Array.getElem_setIfInBounds h1, Array.getElem_mapIdx]
  by_cases h : j = i
  · subst h
    simp only [if_true, Array.getD, dif_pos h1, Array.getInternal_eq_getElem]
  · simp only [if_neg h, add_zero]

theorem replicate_mapIdx_add (n : Nat) (g : Nat → K) :
    ((Array.replicate n (0 : K)).mapIdx fun i v => v + g i) = (Array.range n).map g :=
  Array.ext (by simp) fun i _ _ => by simp

theorem getD_range_map {β : Type} (n : Nat) (f : Nat → β) (d : β) {i : Nat} (hi : i < n) :
    ((Array.range n).map f).getD i d = f i := by
  simp [Array.getD, hi]

theorem range_map_congr {β : Type} {n : Nat} {f g : Nat → β} (h : ∀ i, i < n → f i = g i) :
    (Array.range n).map f = (Array.range n).map g :=
  Array.map_congr_left fun i hi => h i (Array.mem_range.mp hi)

theorem get2_table {n m : Nat} {f : Nat → Nat → K} {i j : Nat} (hi : i < n) (hj : j < m) :
    get2 ((Array.range n).map fun i => (Array.range m).map fun j => f i j) i j = f i j := by
  rw [get2, getD_range_map n _ _ hi, getD_range_map m _ _ hj]

theorem parity_sum_swap (n1 n2 N : Nat) (f : Nat → Nat → K) :
    ((List.range (n1 + 1)).map fun l1 => ((parityRange n2 (l1 + N)).map fun l2 => f l1 l2).sum).sum
      = ((List.range (n2 + 1)).map fun l2 => ((parityRange n1 (l2 + N)).map fun l1 => f l1 l2).sum).sum := by
  unfold parityRange
  simp only [sum_filter_map]
  rw [sum_map_comm]
  refine sum_map_congr (fun l2 _ => sum_map_congr (fun l1 _ => ?_))
  have h : (l2 % 2 = (l1 + N) % 2) ↔ (l1 % 2 = (l2 + N) % 2) := by omega
  simp only [h]

end Ecpint.ContractionLemmas
