/-
Helper lemmas for C16 about the ECP container model (Ecpint/Model/EcpLoad.lean):
insertion sort by angular momentum and the `bump` of `l_starts`.
-/
import Ecpint.Model.EcpLoad
import Mathlib.Data.List.Perm.Basic

namespace Ecpint.EcpLoad

theorem insertByL_perm (g : Gauss) (l : List Gauss) : (insertByL g l).Perm (g :: l) := by
  induction l with
  | nil => exact List.Perm.refl _
  | cons h t ih =>
    unfold insertByL
    split
    · exact List.Perm.refl _
    · exact (List.Perm.cons h ih).trans (List.Perm.swap g h t)

theorem insertByL_sorted (g : Gauss) (l : List Gauss) (hl : l.Pairwise (fun a b => a.l ≤ b.l)) :
    (insertByL g l).Pairwise (fun a b => a.l ≤ b.l) := by
  induction l with
  | nil => exact List.pairwise_singleton _ _
  | cons h t ih =>
    obtain ⟨hh, ht⟩ := List.pairwise_cons.1 hl
    unfold insertByL
    split
    · rename_i hlt
      exact hl.cons (List.forall_mem_cons.2 ⟨Nat.le_of_lt hlt, fun b hb => Nat.le_trans (Nat.le_of_lt hlt) (hh b hb)⟩)
    · rename_i hge
      refine (ih ht).cons fun b hb => ?_
      rcases List.mem_cons.1 ((insertByL_perm g t).mem_iff.1 hb) with rfl | hb
      · exact Nat.le_of_not_lt hge
      · exact hh b hb

theorem foldl_insertByL_perm (gs acc : List Gauss) :
    (gs.foldl (fun acc g => insertByL g acc) acc).Perm (acc ++ gs) := by
  induction gs generalizing acc with
  | nil => simp
  | cons g t ih =>
    simp only [List.foldl_cons]
    refine (ih _).trans ?_
    refine ((insertByL_perm g acc).append_right t).trans ?_
    exact List.perm_middle.symm

theorem sortByL_perm (gs : List Gauss) : (sortByL gs).Perm gs :=
  foldl_insertByL_perm gs []

theorem sortByL_sorted (gs : List Gauss) : (sortByL gs).Pairwise (fun a b => a.l ≤ b.l) :=
  List.foldlRecOn gs _ List.Pairwise.nil fun acc hacc g _ => insertByL_sorted g acc hacc

theorem bump_length (l : Nat) (ls : List Nat) : (bump l ls).length = ls.length := by
  simp [bump]

theorem bump_getD (l : Nat) (ls : List Nat) (i : Nat) (hi : i < ls.length) :
    (bump l ls).getD i 0 = ls.getD i 0 + (if l < i then 1 else 0) := by
  simp only [bump, List.getD_eq_getElem?_getD, List.getElem?_mapIdx, List.getElem?_eq_getElem hi,
    Option.map_some, Option.getD_some]
  split <;> rfl

theorem addPrimitive_gaussians_perm (s : ECPState) (n : Int) (l : Nat) (a d : Dec) (b : Bool) :
    (addPrimitive s n l a d b).gaussians.Perm (s.gaussians ++ [{ n := n - 2, l := l, a := a, d := d }]) := by
  cases b
  · exact List.Perm.refl _
  · exact sortByL_perm _

theorem addPrimitive_N (s : ECPState) (n : Int) (l : Nat) (a d : Dec) (b : Bool) :
    (addPrimitive s n l a d b).N = s.N + 1 := rfl

theorem addPrimitive_lStarts (s : ECPState) (n : Int) (l : Nat) (a d : Dec) (b : Bool) :
    (addPrimitive s n l a d b).lStarts = bump l s.lStarts := rfl

theorem addPrimitive_L (s : ECPState) (n : Int) (l : Nat) (a d : Dec) (b : Bool) :
    (addPrimitive s n l a d b).L = max s.L (l : Int) := by
  show (if (l : Int) > s.L then (l : Int) else s.L) = _
  omega

end Ecpint.EcpLoad
