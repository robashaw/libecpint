/- Loops that add into an accumulator, read as list sums: a `foldl` whose step adds `f x` computes `(l.map f).sum`, and a sum over
   `List.range` with a single non-zero term is that term.  The `Finset.range` form of such sums: Ecpint/Lemmas/FoldSumFinset.lean. -/
import Mathlib.Algebra.BigOperators.Group.List.Basic

namespace Ecpint.FoldSum

variable {K : Type*} [AddMonoid K]

theorem foldl_add_eq_sum {β : Type*} (f : β → K) (l : List β) (a : K) :
    l.foldl (fun acc x => acc + f x) a = a + (l.map f).sum := by
  rw [List.sum_eq_foldl, ← List.foldl_assoc (α := K) (op := (· + ·)), add_zero, List.foldl_map]

theorem foldl_ite_add_eq_sum {β : Type*} (c : β → Prop) [DecidablePred c] (f : β → K) (l : List β) (a : K) :
    l.foldl (fun acc x => if c x then acc + f x else acc) a = a + (l.map fun x => if c x then f x else 0).sum := by
  rw [← foldl_add_eq_sum]
  congr 1
  funext acc x
  split_ifs
  · rfl
  · exact (add_zero acc).symm

theorem sum_range_single (n j : Nat) (F : Nat → K) (hF : ∀ i, i < n → i ≠ j → F i = 0) :
    ((List.range n).map F).sum = if j < n then F j else 0 := by
  rw [List.sum_map_eq_nsmul_single j F fun i hne hi => hF i (List.mem_range.mp hi) hne, List.count_range]
  split_ifs
  · exact one_nsmul _
  · exact zero_nsmul _

end Ecpint.FoldSum
