/- The sum of a list over `List.range n` is the `Finset.range n` sum: with `FoldSum.foldl_add_eq_sum` this turns the adding loops
   of the model into the sums Mathlib reasons about. -/
import Ecpint.Lemmas.FoldSum
import Mathlib.Algebra.BigOperators.Group.Finset.Defs

namespace Ecpint.FoldSum

theorem sum_map_range {K : Type*} [AddCommMonoid K] (f : ℕ → K) (n : ℕ) :
    ((List.range n).map f).sum = ∑ i ∈ Finset.range n, f i := rfl

end Ecpint.FoldSum
