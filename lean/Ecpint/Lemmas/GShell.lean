/- helper lemmas for C17: what `applySem` produces when the operation carries everything.  Members are read through the
   uniform view `get : Field → Shell → FV`, so that "copy member `g`, then read member `f`" is one equation for all 64 pairs. -/
import Ecpint.Model.GShell
namespace Ecpint.GShell

inductive FV
  | list (l : List Nat) | ptr (p : Ptr) | bool (b : Bool) | opt (o : Option Nat)

def get : Field → Shell → FV
  | .exps, s => .list s.exps
  | .coeffs, s => .list s.coeffs
  | .centerVec, s => .ptr s.centerVec
  | .localPtr, s => .bool s.localPtr
  | .localCenter, s => .opt s.localCenter
  | .minExp, s => .opt s.minExp
  | .l, s => .opt s.l
  | .atomId, s => .opt s.atomId

theorem get_copyField (f g : Field) (src t : Shell) :
    get f (copyField g src t) = if f = g then get f src else get f t := by
  cases f <;> cases g <;> rfl

theorem get_foldl (f : Field) (src : Shell) (fs : List Field) (base : Shell) :
    get f (fs.foldl (fun t g => copyField g src t) base)
      = if f ∈ fs then get f src else get f base := by
  induction fs generalizing base with
  | nil => simp
  | cons g gs ih =>
    simp only [List.foldl_cons, ih, get_copyField, List.mem_cons]
    by_cases h1 : f ∈ gs
    · simp [h1]
    · by_cases h2 : f = g <;> simp [h1, h2]

theorem ext_shell (a b : Shell) (h : ∀ f, get f a = get f b) : a = b := by
  cases a
  cases b
  rw [Shell.mk.injEq]
  exact ⟨FV.list.inj (h .exps), FV.list.inj (h .coeffs), FV.ptr.inj (h .centerVec), FV.bool.inj (h .localPtr),
    FV.opt.inj (h .localCenter), FV.opt.inj (h .minExp), FV.opt.inj (h .l), FV.opt.inj (h .atomId)⟩

/-- the copy an operation that carries everything makes of `src` for the object `self`; `lc` is the `localCenter` of
the copy of an external-centre shell, which no copy operation has to carry (and nothing reads) -/
def copied (self : Nat) (src : Shell) (lc : Option Nat) : Shell :=
  { src with
    centerVec := if src.localPtr then .loc self else src.centerVec
    localCenter := if src.localPtr then src.localCenter else lc }

theorem applySem_carries (c : CopySem) (hc : c.Carries) (self : Nat) (src base : Shell) :
    ∃ lc, applySem c self src base = copied self src lc := by
  obtain ⟨hall, hlc, hrep⟩ := hc
  generalize ht : (c.carried ++ if src.localPtr then c.carriedIfLocal else []).foldl
    (fun t f => copyField f src t) base = t
  have hdef : applySem c self src base
      = if c.repoint && t.localPtr then { t with centerVec := .loc self } else t := by
    rw [← ht]
    rfl
  have hg : ∀ f, f ≠ .localCenter → get f t = get f src := by
    intro f hf
    rw [← ht, get_foldl, if_pos (List.mem_append_left _ (hall f (by cases f <;> decide) hf))]
  have hloc : src.localPtr = true → get .localCenter t = get .localCenter src := by
    intro hl
    rw [← ht, get_foldl, if_pos]
    rw [hl]
    exact hlc.elim (List.mem_append_left _) (List.mem_append_right _)
  have ht' : t = { src with localCenter := if src.localPtr then src.localCenter else t.localCenter } := by
    refine ext_shell _ _ fun f => ?_
    cases f with
    | localCenter =>
      cases hl : src.localPtr with
      | false => rfl
      | true => exact hloc hl
    | _ => exact hg _ (by decide)
  generalize t.localCenter = lc at ht'
  refine ⟨lc, ?_⟩
  rw [hdef, hrep, ht']
  dsimp only [copied]
  cases src.localPtr <;> rfl

/-- what `Inv` says of one live object `o` -/
def OwnCentre (o : Nat) (s : Shell) : Prop :=
  (s.localPtr = true → s.centerVec = .loc o) ∧ (s.localPtr = false → ∃ b, s.centerVec = .ext b)

theorem ownCentre_applySem (c : CopySem) (hc : c.Carries) (self : Nat) (src base : Shell)
    (h : src.localPtr = false → ∃ b, src.centerVec = .ext b) : OwnCentre self (applySem c self src base) := by
  obtain ⟨lc, hlc⟩ := applySem_carries c hc self src base
  rw [hlc]
  unfold OwnCentre copied
  cases hl : src.localPtr with
  | true => exact ⟨fun _ => rfl, fun h' => nomatch h'⟩
  | false => exact ⟨fun h' => (nomatch h'), fun _ => h hl⟩

end Ecpint.GShell
