/- mixed-radix addresses `a * B + b` with `b < B`: the step from an index `a < A` to an index below `A * B`, and back
   (flattened multi-index tables and the addresses of the generated classes are of this form).  Core Lean only. -/
namespace Ecpint.MixedRadix

theorem digit_lt {a A b B : Nat} (ha : a < A) (hb : b < B) : a * B + b < A * B :=
  calc a * B + b < a * B + B := Nat.add_lt_add_left hb _
    _ = (a + 1) * B := (Nat.succ_mul a B).symm
    _ ≤ A * B := Nat.mul_le_mul_right B ha

theorem digit_div {a b B : Nat} (hb : b < B) : (a * B + b) / B = a := by
  rw [Nat.mul_comm, Nat.mul_add_div (Nat.zero_lt_of_lt hb), Nat.div_eq_of_lt hb, Nat.add_zero]

theorem digit_mod {a b B : Nat} (hb : b < B) : (a * B + b) % B = b := by
  rw [Nat.mul_comm, Nat.mul_add_mod, Nat.mod_eq_of_lt hb]

theorem digit_inj {B a a' b b' : Nat} (hb : b < B) (hb' : b' < B) (h : a * B + b = a' * B + b') : a = a' ∧ b = b' :=
  ⟨by rw [← digit_div (a := a) hb, h, digit_div hb'], by rw [← digit_mod (a := a) hb, h, digit_mod hb']⟩

end Ecpint.MixedRadix
