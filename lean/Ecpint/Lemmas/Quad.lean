/-
Helper lemmas for C15: the grid sizes (nested by doubling), the index arithmetic of `sumIndices` (halved limit; on a grid
with Q·s panels node a lies inside the grid and its mirror image is node Q − a; the mirror images of the first members of
the pairs, read backwards), the counting argument "a list that covers a duplicate-free list and is no longer than it is a
permutation of it", and reading an array after the mirrored `set!` loop of `initGrid`.
-/
import Ecpint.Model.Quad
import Mathlib.Tactic.Ring
import Mathlib.Tactic.Linarith
import Mathlib.Data.List.Perm.Basic
import Mathlib.Data.List.Perm.Subperm
import Mathlib.Data.List.Nodup
import Mathlib.Data.List.Range
import Mathlib.Data.Nat.Factorization.Basic

namespace Ecpint.QuadLemmas

theorem perm_of_nodup_subset_length {l₁ l₂ : List ℕ} (hnd : l₁.Nodup) (hsub : l₁ ⊆ l₂)
    (hlen : l₂.length ≤ l₁.length) : l₂.Perm l₁ :=
  ((List.subperm_of_subset hnd hsub).perm_of_length_le hlen).symm

theorem length_flatMap_pair (l : List ℕ) (a b : ℕ → ℕ) :
    (l.flatMap fun j => [a j, b j]).length = 2 * l.length := by
  induction l with
  | nil => simp
  | cons x l ih =>
    simp only [List.flatMap_cons, List.length_append, List.length_cons, List.length_nil, ih]
    omega

/-- the loop `i = 0, 2, …, ≤ 2^(k+1) − 1` runs 2^k times -/
theorem half_limit (k : ℕ) : (2 ^ (k + 1) - 1) / 2 + 1 = 2 ^ k := by
  have := Nat.two_pow_pos k
  rw [pow_succ]
  omega

theorem gridSize_succ (t : Quad.GCType) (p : ℕ) : Quad.gridSize t (p + 1) = 2 * Quad.gridSize t p + 1 := by
  have := Nat.two_pow_pos p
  cases t
  · rw [Quad.gridSize, Quad.gridSize, pow_succ]
    omega
  · rw [Quad.gridSize, Quad.gridSize, pow_succ]
    omega

/-- the panels of the grid with 2^P − 1 points as 2·skip·K·s: K = 2^k pairs with `skip` 2 and stride s = 2^(P−2−k) -/
theorem two_pow_split_one (P k : ℕ) (hk : k + 2 ≤ P) : 2 ^ P - 1 + 1 = 2 * 2 * 2 ^ k * 2 ^ (P - 2 - k) := by
  have h : P = 2 + k + (P - 2 - k) := by omega
  rw [Nat.sub_add_cancel (Nat.two_pow_pos P)]
  conv_lhs => rw [h]
  rw [pow_add, pow_add, pow_two]

/-- the same for 3·2^P − 1 points: `skip` 3 and stride 2^(P−1−k) -/
theorem two_pow_split_two (P k : ℕ) (hk : k + 1 ≤ P) : 3 * 2 ^ P - 1 + 1 = 2 * 3 * 2 ^ k * 2 ^ (P - 1 - k) := by
  have h : P = 1 + k + (P - 1 - k) := by omega
  rw [Nat.sub_add_cancel (Nat.mul_pos (by norm_num) (Nat.two_pow_pos P))]
  conv_lhs => rw [h]
  rw [pow_add, pow_add]
  ring

theorem stride_pos (N Q s : ℕ) (h : N + 1 = Q * s) : 1 ≤ s :=
  Nat.pos_of_ne_zero fun hs => by
    rw [hs] at h
    omega

theorem node_lt (N Q s a : ℕ) (h : N + 1 = Q * s) (ha : 1 ≤ a) (haQ : a < Q) : a * s - 1 < N := by
  have h1 : a * s + s ≤ Q * s := Nat.succ_mul a s ▸ Nat.mul_le_mul_right s haQ
  have h2 : 1 ≤ s := stride_pos N Q s h
  have h3 : 1 * s ≤ a * s := Nat.mul_le_mul_right s ha
  omega

theorem mirror_index (N Q s a : ℕ) (h : N + 1 = Q * s) (ha : 1 ≤ a * s) :
    N - (a * s - 1) - 1 = (Q - a) * s - 1 := by
  rw [Nat.sub_mul]
  omega

theorem pair_index_lt (skip K j : ℕ) (hskip : 1 ≤ skip) (hj : j < K) : skip * (2 * j) + 1 < 2 * skip * K := by
  have h : skip * (2 * j + 2) ≤ skip * (2 * K) := Nat.mul_le_mul_left skip (by omega)
  rw [Nat.mul_add] at h
  rw [Nat.mul_assoc 2 skip K, Nat.mul_left_comm 2 skip K]
  omega

/-- read backwards (j' = K − 1 − j), the mirror images of the first members are the nodes ≡ −1 (mod 2·skip) -/
theorem pair_mirror (skip K j : ℕ) (hj : j < K) :
    2 * skip * K - (skip * (2 * j) + 1) = 2 * skip * (K - 1 - j + 1) - 1 := by
  rw [show K - 1 - j + 1 = K - j by omega, Nat.mul_sub, Nat.mul_left_comm skip 2 j, ← Nat.mul_assoc]
  omega

theorem nodup_odd_stride (n s : ℕ) (hs : 1 ≤ s) :
    ((List.range n).map fun i => (2 * i + 1) * s - 1).Nodup := by
  refine List.Nodup.map_on (fun i _ i' _ h => ?_) List.nodup_range
  have := Nat.eq_of_mul_eq_mul_right hs
    (Nat.sub_one_cancel (Nat.mul_pos (Nat.succ_pos _) hs) (Nat.mul_pos (Nat.succ_pos _) hs) h)
  omega

theorem length_flatMap_levels (f : ℕ → List ℕ) (hf : ∀ k, (f k).length = 2 ^ (k + 1)) (n : ℕ) :
    ((List.range n).flatMap f).length = 2 ^ (n + 1) - 2 := by
  induction n with
  | zero => simp
  | succ n ih =>
    rw [List.range_succ, List.flatMap_append, List.length_append, ih]
    simp only [List.flatMap_cons, List.flatMap_nil, List.append_nil, hf]
    have := Nat.two_pow_pos n
    rw [pow_succ 2 (n + 1), pow_succ 2 n]
    omega

theorem dyadic_decomp (P m : ℕ) (hm : 1 ≤ m) (hmP : m < 2 ^ P) :
    m = 2 ^ (P - 1) ∨ ∃ k, k < P - 1 ∧ ∃ i, i < 2 ^ (k + 1) ∧ (2 * i + 1) * 2 ^ (P - 2 - k) = m := by
  obtain ⟨e, o, ⟨i, rfl⟩, rfl⟩ := Nat.exists_eq_two_pow_mul_odd (n := m) (by omega)
  have he : e < P :=
    (Nat.pow_lt_pow_iff_right (by norm_num)).1 (lt_of_le_of_lt (Nat.le_mul_of_pos_right _ (by omega)) hmP)
  obtain ⟨d, rfl⟩ : ∃ d, P = e + (d + 1) := ⟨P - 1 - e, by omega⟩
  rw [pow_add, pow_succ] at hmP
  have hi : 2 * i + 1 < 2 ^ d * 2 := Nat.lt_of_mul_lt_mul_left hmP
  cases d with
  | zero =>
    left
    obtain rfl : i = 0 := by omega
    rw [Nat.add_sub_cancel, Nat.mul_zero, Nat.zero_add, Nat.mul_one]
  | succ k =>
    right
    refine ⟨k, by omega, i, by omega, ?_⟩
    rw [show e + (k + 1 + 1) - 2 - k = e by omega, Nat.mul_comm]

theorem getElemBang_of_getElemOpt {α : Type} [Inhabited α] (a : Array α) (i : ℕ) (v : α) (h : a[i]? = some v) :
    a[i]! = v := by
  rw [getElem!_def, h]

/-- if every value written is the value of one function φ at its position, neither the order of the writes nor their
overlap matters -/
theorem getElem?_foldl_mirror {α : Type} (φ u v : ℕ → α) (q : ℕ → ℕ) (l : List ℕ) (hu : ∀ n ∈ l, u n = φ n)
    (hv : ∀ n ∈ l, v n = φ (q n)) (a0 : Array α) (i : ℕ) (hi : i < a0.size) :
    (l.foldl (fun a n => (a.set! (q n) (v n)).set! n (u n)) a0)[i]? =
      if ∃ n ∈ l, n = i ∨ q n = i then some (φ i) else a0[i]? := by
  induction l generalizing a0 with
  | nil => rfl
  | cons n l ih =>
    simp only [Array.set!_eq_setIfInBounds] at ih ⊢
    rw [List.foldl_cons, ih (fun m hm => hu m (List.mem_cons_of_mem _ hm)) (fun m hm => hv m (List.mem_cons_of_mem _ hm)) _
      (by rw [Array.size_setIfInBounds, Array.size_setIfInBounds]; exact hi)]
    by_cases h1 : ∃ m ∈ l, m = i ∨ q m = i
    · obtain ⟨m, hm, h⟩ := h1
      rw [if_pos ⟨m, hm, h⟩, if_pos ⟨m, List.mem_cons_of_mem _ hm, h⟩]
    · rw [if_neg h1, Array.getElem?_setIfInBounds, Array.getElem?_setIfInBounds, Array.size_setIfInBounds]
      by_cases h2 : n = i
      · rw [if_pos h2, if_pos (h2 ▸ hi), if_pos ⟨n, List.mem_cons_self, Or.inl h2⟩, hu n List.mem_cons_self, h2]
      · by_cases h3 : q n = i
        · rw [if_neg h2, if_pos h3, if_pos (h3 ▸ hi), if_pos ⟨n, List.mem_cons_self, Or.inr h3⟩,
            hv n List.mem_cons_self, h3]
        · rw [if_neg h2, if_neg h3, if_neg]
          rintro ⟨m, hm, h⟩
          rcases List.mem_cons.1 hm with rfl | hm
          · exact h.elim h2 h3
          · exact h1 ⟨m, hm, h⟩

/-- the loop of `initGrid` on one array of size 2M + 1 with c in the middle: its M rounds write every other entry -/
theorem getElem?_foldl_mirror_full {α : Type} (u v φ : ℕ → α) (M : ℕ) (z c : α) (hu : ∀ i, i < M → u i = φ i)
    (hc : c = φ M) (hv : ∀ i, i < M → v i = φ (2 * M - i)) (i : ℕ) (hi : i < 2 * M + 1) :
    ((List.range M).foldl (fun a n => (a.set! (2 * M - n) (v n)).set! n (u n))
        ((Array.replicate (2 * M + 1) z).set! M c))[i]? = some (φ i) := by
  have hs0 : ((Array.replicate (2 * M + 1) z).set! M c).size = 2 * M + 1 := by
    rw [Array.set!_eq_setIfInBounds, Array.size_setIfInBounds, Array.size_replicate]
  rw [getElem?_foldl_mirror φ u v (2 * M - ·) _ (fun n hn => hu n (List.mem_range.1 hn))
    (fun n hn => hv n (List.mem_range.1 hn)) _ i (hs0.symm ▸ hi)]
  rcases Nat.lt_trichotomy i M with h | rfl | h
  · rw [if_pos ⟨i, List.mem_range.2 h, Or.inl rfl⟩]
  · rw [if_neg, Array.set!_eq_setIfInBounds, Array.getElem?_setIfInBounds, if_pos rfl,
      if_pos (by rw [Array.size_replicate]; omega), hc]
    rintro ⟨n, hn, h⟩
    rw [List.mem_range] at hn
    omega
  · rw [if_pos ⟨2 * M - i, List.mem_range.2 (by omega), Or.inr (by omega)⟩]

end Ecpint.QuadLemmas
