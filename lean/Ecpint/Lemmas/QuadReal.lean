/-
Real-analysis helper lemmas for Props/C15b.lean: finite cosine sums over equally spaced angles
(Lagrange's telescoping identity), the power-reduction formula for sin⁴, convergence of right-endpoint Riemann sums,
and a sum over `range (d·q)` read in blocks of d (the bookkeeping behind the nested rules).
-/
import Mathlib.Tactic.FieldSimp
import Mathlib.Tactic.Ring
import Mathlib.Tactic.Linarith
import Mathlib.Analysis.SpecialFunctions.Trigonometric.Basic
import Mathlib.Algebra.BigOperators.Intervals
import Mathlib.Topology.UniformSpace.HeineCantor
import Mathlib.Analysis.SpecialFunctions.Integrals.Basic

namespace Ecpint.QuadReal
open Real Finset Filter Topology

theorem two_sin_half_mul_sum_cos (α : ℝ) (m : ℕ) :
    2 * sin (α / 2) * ∑ i ∈ Finset.range m, cos (((i + 1 : ℕ) : ℝ) * α)
      = sin (((m : ℝ) + 1 / 2) * α) - sin (α / 2) := by
  have e : ∀ i : ℕ, cos (((i + 1 : ℕ) : ℝ) * α) = cos (α * i + α) := fun i => by
    push_cast
    ring_nf
  simp only [e]
  rw [mul_assoc, Real.sin_mul_sum_cos m α α, sin_sub_sin]
  ring_nf

theorem sum_cos_nodes (n k : ℕ) (hk0 : 0 < k) (hk : k < 2 * (n + 1)) :
    ∑ i ∈ Finset.range n, cos ((k : ℝ) * (((i + 1 : ℕ) : ℝ) * π / ((n : ℝ) + 1))) = -(1 + (-1) ^ k) / 2 := by
  have hk' : (k : ℝ) < 2 * ((n : ℝ) + 1) := by exact_mod_cast hk
  obtain ⟨α, hα⟩ : ∃ α : ℝ, α = (k : ℝ) * π / ((n : ℝ) + 1) := ⟨_, rfl⟩
  have harg : ∀ i : ℕ, (k : ℝ) * (((i + 1 : ℕ) : ℝ) * π / ((n : ℝ) + 1)) = ((i + 1 : ℕ) : ℝ) * α := fun i => by
    rw [hα]
    ring
  have hpos : 0 < sin (α / 2) := by
    apply sin_pos_of_pos_of_lt_pi
    · rw [hα]
      positivity
    · rw [hα, div_div, div_lt_iff₀ (by positivity), mul_comm π, mul_comm _ 2]
      exact mul_lt_mul_of_pos_right hk' pi_pos
  -- Lagrange's identity with (n + ½)·α = kπ − α/2
  have hL := two_sin_half_mul_sum_cos α n
  have e : ((n : ℝ) + 1 / 2) * α = (k : ℝ) * π - α / 2 := by
    rw [hα]
    field_simp
    ring
  rw [e, sin_nat_mul_pi_sub] at hL
  simp only [harg]
  refine mul_left_cancel₀ (mul_ne_zero two_ne_zero hpos.ne') (hL.trans ?_)
  ring

theorem sin_pow_four_eq (θ : ℝ) : sin θ ^ 4 = (3 - 4 * cos (2 * θ) + cos (4 * θ)) / 8 := by
  have h4 : (4 : ℝ) * θ = 2 * (2 * θ) := by ring
  rw [h4, cos_two_mul (2 * θ), cos_two_mul θ, cos_sq' θ]
  ring

theorem integral_cos_nat_mul (k : ℕ) (hk : 0 < k) : ∫ θ in (0 : ℝ)..π, cos ((k : ℝ) * θ) = 0 := by
  have hk' : (k : ℝ) ≠ 0 := by exact_mod_cast hk.ne'
  rw [intervalIntegral.integral_comp_mul_left (fun x => cos x) hk', integral_cos]
  simp [sin_nat_mul_pi]

theorem integral_cos_poly (N : ℕ) (a : ℕ → ℝ) :
    ∫ θ in (0 : ℝ)..π, ∑ k ∈ range (N + 1), a k * cos ((k : ℝ) * θ) = a 0 * π := by
  rw [intervalIntegral.integral_finsetSum]
  · rw [sum_range_succ']
    have : ∀ k ∈ range N, ∫ θ in (0 : ℝ)..π, a (k + 1) * cos (((k + 1 : ℕ) : ℝ) * θ) = 0 := by
      intro k _
      rw [intervalIntegral.integral_const_mul, integral_cos_nat_mul _ (Nat.succ_pos k), mul_zero]
    rw [sum_eq_zero this]
    simp [mul_comm]
  · intro k _
    apply Continuous.intervalIntegrable
    fun_prop

/-- the trapezoid sum of a cosine polynomial p of degree < 2(n+1) over the interior nodes is (n+1)·a₀ − (p(0) + p(π))/2 -/
theorem trap_cos_poly (n : ℕ) (a : ℕ → ℝ) :
    ∑ i ∈ range n, ∑ k ∈ range (2 * n + 1 + 1), a k * cos ((k : ℝ) * (((i + 1 : ℕ) : ℝ) * π / ((n : ℝ) + 1)))
      = a 0 * (n + 1) - (∑ k ∈ range (2 * n + 1 + 1), a k + ∑ k ∈ range (2 * n + 1 + 1), a k * (-1) ^ k) / 2 := by
  rw [sum_comm, ← sum_add_distrib, sum_div, eq_sub_iff_add_eq, ← sum_add_distrib, sum_range_succ']
  have : ∀ k ∈ range (2 * n + 1), ∑ i ∈ range n, a (k + 1) * cos (((k + 1 : ℕ) : ℝ) * (((i + 1 : ℕ) : ℝ) * π / ((n : ℝ) + 1)))
      + (a (k + 1) + a (k + 1) * (-1) ^ (k + 1)) / 2 = 0 := by
    intro k hk
    rw [mem_range] at hk
    rw [← mul_sum, sum_cos_nodes n (k + 1) (Nat.succ_pos k) (by omega)]
    ring
  rw [sum_eq_zero this]
  simp only [Nat.cast_zero, zero_mul, cos_zero, sum_const, card_range, nsmul_eq_mul, mul_one, pow_zero]
  ring

theorem tendsto_right_riemann_sum (g : ℝ → ℝ) (hg : Continuous g) (L : ℝ) (hL : 0 ≤ L) :
    Tendsto (fun n : ℕ => L / ((n : ℝ) + 1) * ∑ i ∈ range (n + 1), g (((i + 1 : ℕ) : ℝ) * (L / ((n : ℝ) + 1))))
      atTop (𝓝 (∫ x in (0 : ℝ)..L, g x)) := by
  rw [Metric.tendsto_atTop]
  intro ε hε
  -- uniform continuity on [0, L]: across a panel shorter than δ the integrand moves by less than ε/(L+1)
  obtain ⟨δ, hδ, hδ'⟩ := Metric.uniformContinuousOn_iff.1
    (isCompact_Icc.uniformContinuousOn_of_continuous (hg.continuousOn (s := Set.Icc 0 L))) (ε / (L + 1)) (by positivity)
  obtain ⟨N, hN⟩ := exists_nat_gt (L / δ)
  refine ⟨N, fun n hn => ?_⟩
  have hn1 : (0 : ℝ) < (n : ℝ) + 1 := by positivity
  obtain ⟨h, hh⟩ : ∃ h, h = L / ((n : ℝ) + 1) := ⟨_, rfl⟩
  rw [← hh]
  have hnh : ((n + 1 : ℕ) : ℝ) * h = L := by
    rw [hh, Nat.cast_succ, mul_div_cancel₀ L hn1.ne']
  have hh0 : 0 ≤ h := hh ▸ div_nonneg hL hn1.le
  have hhδ : h < δ := by
    have h1 : (N : ℝ) ≤ (n : ℝ) + 1 := (Nat.cast_le.2 hn).trans (le_add_of_nonneg_right zero_le_one)
    rw [hh, div_lt_iff₀ hn1, mul_comm]
    exact ((div_lt_iff₀ hδ).1 hN).trans_le (mul_le_mul_of_nonneg_right h1 hδ.le)
  -- the error, panel by panel: on panel i the integrand is compared with its value at the right end
  have key : h * ∑ i ∈ range (n + 1), g (((i + 1 : ℕ) : ℝ) * h) - ∫ x in (0 : ℝ)..L, g x
      = ∑ i ∈ range (n + 1), ∫ x in (i : ℝ) * h..((i + 1 : ℕ) : ℝ) * h, (g (((i + 1 : ℕ) : ℝ) * h) - g x) := by
    have hsplit := intervalIntegral.sum_integral_adjacent_intervals (a := fun i : ℕ => (i : ℝ) * h) (n := n + 1)
      (fun k _ => hg.intervalIntegrable (μ := MeasureTheory.volume) _ _)
    rw [Nat.cast_zero, zero_mul, hnh] at hsplit
    rw [← hsplit, mul_sum, ← sum_sub_distrib]
    refine sum_congr rfl fun i _ => ?_
    rw [intervalIntegral.integral_sub intervalIntegrable_const (hg.intervalIntegrable _ _),
      intervalIntegral.integral_const, smul_eq_mul]
    push_cast
    ring
  rw [Real.dist_eq, key]
  calc |∑ i ∈ range (n + 1), ∫ x in (i : ℝ) * h..((i + 1 : ℕ) : ℝ) * h, (g (((i + 1 : ℕ) : ℝ) * h) - g x)|
      ≤ ∑ i ∈ range (n + 1), |∫ x in (i : ℝ) * h..((i + 1 : ℕ) : ℝ) * h, (g (((i + 1 : ℕ) : ℝ) * h) - g x)| :=
        abs_sum_le_sum_abs _ _
    _ ≤ ∑ _i ∈ range (n + 1), ε / (L + 1) * h := sum_le_sum fun i hi => by
        have hw : ((i + 1 : ℕ) : ℝ) * h - (i : ℝ) * h = h := by
          push_cast
          ring
        have htop : ((i + 1 : ℕ) : ℝ) * h ≤ L :=
          hnh ▸ mul_le_mul_of_nonneg_right (Nat.cast_le.2 (mem_range.1 hi)) hh0
        have hbot : 0 ≤ (i : ℝ) * h := mul_nonneg (Nat.cast_nonneg i) hh0
        refine (intervalIntegral.norm_integral_le_of_norm_le_const (E := ℝ) (C := ε / (L + 1))
          fun x hx => ?_).trans_eq ?_
        · rw [Set.uIoc_of_le (by linarith only [hw, hh0])] at hx
          refine (hδ' _ ⟨by linarith only [hbot, hw, hh0], htop⟩ _
            ⟨by linarith only [hbot, hx.1], by linarith only [htop, hx.2]⟩ ?_).le
          rw [Real.dist_eq, abs_of_nonneg (by linarith only [hx.2])]
          linarith only [hx.1, hw, hhδ]
        · rw [hw, abs_of_nonneg hh0]
    _ = ε / (L + 1) * L := by
        rw [sum_const, card_range, nsmul_eq_mul, mul_left_comm, hnh]
    _ < ε := by
        rw [div_mul_eq_mul_div, div_lt_iff₀ (by positivity)]
        exact mul_lt_mul_of_pos_left (lt_add_one L) hε

theorem sum_range_mul_blocks (a : ℕ → ℝ) (d q : ℕ) :
    ∑ j ∈ Finset.range (d * q), a j = ∑ i ∈ Finset.range q, ∑ r ∈ Finset.range d, a (d * i + r) := by
  induction q with
  | zero => simp
  | succ q ih => rw [Nat.mul_succ, Finset.sum_range_add, ih, Finset.sum_range_succ]

end Ecpint.QuadReal
