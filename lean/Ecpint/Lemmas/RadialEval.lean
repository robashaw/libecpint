/- Evaluating the recurrences of `Ecpint/Model/RadialRec.lean`.

   `simp only [radial_eval]` turns `Q p x y fam i j k` with numerals `i ≤ j` (and `k` a numeral or a variable) into the
   nested sum of base integrals `fam.F (k - m)`, `fam.GB (k + m)` that the equations of `Lemmas/RadialRecQ.lean` unroll
   it to, ready for `ring`; in a generated case and in the coefficient of `Q_step` at numerals it evaluates the integers
   and their casts.
   Trap: `simp only [...]` runs no simprocs unless they are named, so the integer arithmetic is in the set by name.
   `zero_div zero_mul zero_add add_zero` remove the subtrees whose coefficient μ = (2 + j − i − k)/(2x) is 0; `ring` does
   not get through the term with them left in.
   `inv_four inv_eight inv_sixteen` are for `grobner`, to which the inverse of each numeral is an atom of its own, tied to
   the others only through `k * k⁻¹ = 1`: the numerals in the denominators of the generated cases are 2, 4, 8, 16, and
   written in `2⁻¹` there is one such atom. -/
import Ecpint.Lemmas.RadialEvalAttr
import Ecpint.Lemmas.RadialRecQ
import Mathlib.Data.Int.Cast.Lemmas
import Mathlib.Tactic.NormNum.Basic
namespace Ecpint.RadialRec

theorem shift_sub_add (k a b : Int) : k - a + b = k - (a - b) :=
  sub_add k a b

theorem shift_add_sub (k a b : Int) : k + a - b = k + (a - b) :=
  add_sub_assoc k a b

section
variable {K : Type} [Field K]

theorem inv_four : (4 : K)⁻¹ = 2⁻¹ * 2⁻¹ := by
  rw [← mul_inv]
  norm_num

theorem inv_eight : (8 : K)⁻¹ = 2⁻¹ * 2⁻¹ * 2⁻¹ := by
  rw [← mul_inv, ← mul_inv]
  norm_num

theorem inv_sixteen : (16 : K)⁻¹ = 2⁻¹ * 2⁻¹ * 2⁻¹ * 2⁻¹ := by
  rw [← mul_inv, ← mul_inv, ← mul_inv]
  norm_num

end

attribute [radial_eval] Q_succ_succ Q_zero_add_two Q_zero_one Q_zero_zero
  Nat.reduceAdd Int.reduceSub Int.reduceAdd Int.reduceMul Int.reduceNeg
  Nat.cast_ofNat Nat.cast_zero Nat.cast_one Int.cast_neg Int.cast_ofNat Int.cast_one Int.cast_zero
  shift_sub_add shift_add_sub Int.sub_sub Int.add_assoc Int.sub_neg sub_zero
  zero_div zero_mul zero_add add_zero
  inv_four inv_eight inv_sixteen

end Ecpint.RadialRec
