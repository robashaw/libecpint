import Mathlib.Tactic.Attr.Register

/-- unrolls `RadialRec.Q p x y fam i j k` at numerals `i j`, evaluates integer coefficients and their casts
(the set is given in `Lemmas/RadialEval.lean`) -/
register_simp_attr radial_eval
