/-
Real analysis for C12b: Gaussian-damped integrals `∫_0^∞ r^k e^{-p r²} A(r) B(r) dr` of two factors of exponential type,
and integration by parts for them in the form "the integral of a derivative vanishes".
-/
import Mathlib.Analysis.SpecialFunctions.Gaussian.GaussianIntegral

namespace Ecpint.RadialReal
open MeasureTheory Set

theorem gauss_lin_le (p c r : ℝ) (hp : 0 < p) : -p * r ^ 2 + c * r ≤ -(p / 2) * r ^ 2 + c ^ 2 / (2 * p) := by
  have h : 0 ≤ (p / 2) * (r - c / p) ^ 2 := by positivity
  have e : (p / 2) * (r - c / p) ^ 2 = (p / 2) * r ^ 2 - c * r + c ^ 2 / (2 * p) := by
    field_simp
    ring
  linarith

theorem integrableOn_pow_mul_gauss_lin (p c : ℝ) (hp : 0 < p) (k : ℕ) :
    IntegrableOn (fun r : ℝ => r ^ k * Real.exp (-p * r ^ 2 + c * r)) (Ioi 0) := by
  have h0 : IntegrableOn (fun r : ℝ => Real.exp (c ^ 2 / (2 * p)) * (r ^ (k : ℝ) * Real.exp (-(p / 2) * r ^ 2))) (Ioi 0) :=
    (integrableOn_rpow_mul_exp_neg_mul_sq (b := p / 2) (by positivity) (s := (k : ℝ))
      (by have : (0 : ℝ) ≤ k := Nat.cast_nonneg k; linarith)).const_mul _
  refine Integrable.mono' h0 ?_ ?_
  · exact (by fun_prop : Continuous fun r : ℝ => r ^ k * Real.exp (-p * r ^ 2 + c * r)).aestronglyMeasurable
  · refine ae_restrict_of_forall_mem measurableSet_Ioi fun r hr => ?_
    have hr0 : (0 : ℝ) < r := hr
    rw [Real.norm_eq_abs, abs_of_nonneg (by positivity), Real.rpow_natCast]
    have h1 : Real.exp (-p * r ^ 2 + c * r) ≤ Real.exp (c ^ 2 / (2 * p)) * Real.exp (-(p / 2) * r ^ 2) := by
      rw [← Real.exp_add]
      apply Real.exp_le_exp.2
      have := gauss_lin_le p c r hp
      linarith
    calc r ^ k * Real.exp (-p * r ^ 2 + c * r)
        ≤ r ^ k * (Real.exp (c ^ 2 / (2 * p)) * Real.exp (-(p / 2) * r ^ 2)) :=
          mul_le_mul_of_nonneg_left h1 (by positivity)
      _ = _ := by ring

/-- continuous and of exponential type on r > 0: what a factor of a Gaussian-damped integrand has to be -/
def ExpType (A : ℝ → ℝ) : Prop :=
  Continuous A ∧ ∃ a, ∀ r : ℝ, 0 < r → |A r| ≤ Real.exp (a * r)

noncomputable def gaussInt (p : ℝ) (k : ℕ) (A B : ℝ → ℝ) : ℝ :=
  ∫ r in Ioi (0 : ℝ), r ^ k * Real.exp (-p * r ^ 2) * A r * B r

theorem gaussInt_comm (p : ℝ) (k : ℕ) (A B : ℝ → ℝ) : gaussInt p k A B = gaussInt p k B A :=
  setIntegral_congr_fun measurableSet_Ioi fun _ _ => mul_right_comm _ _ _

theorem ExpType.integrableOn {A B : ℝ → ℝ} (hA : ExpType A) (hB : ExpType B) (p : ℝ) (hp : 0 < p) (k : ℕ) :
    IntegrableOn (fun r : ℝ => r ^ k * Real.exp (-p * r ^ 2) * A r * B r) (Ioi 0) := by
  obtain ⟨cA, a, bA⟩ := hA
  obtain ⟨cB, b, bB⟩ := hB
  refine Integrable.mono' (integrableOn_pow_mul_gauss_lin p (a + b) hp k)
    (by fun_prop : Continuous fun r : ℝ => r ^ k * Real.exp (-p * r ^ 2) * A r * B r).aestronglyMeasurable ?_
  refine ae_restrict_of_forall_mem measurableSet_Ioi fun r hr => ?_
  have hr0 : (0 : ℝ) < r := hr
  rw [Real.norm_eq_abs, abs_mul, abs_mul, abs_of_nonneg (by positivity : 0 ≤ r ^ k * Real.exp (-p * r ^ 2))]
  have e : Real.exp (-p * r ^ 2 + (a + b) * r) = Real.exp (-p * r ^ 2) * Real.exp (a * r) * Real.exp (b * r) := by
    rw [← Real.exp_add, ← Real.exp_add]
    congr 1
    ring
  rw [e]
  have h1 := mul_le_mul (bA r hr0) (bB r hr0) (abs_nonneg _) (Real.exp_pos _).le
  calc r ^ k * Real.exp (-p * r ^ 2) * |A r| * |B r|
      = (r ^ k * Real.exp (-p * r ^ 2)) * (|A r| * |B r|) := by ring
    _ ≤ (r ^ k * Real.exp (-p * r ^ 2)) * (Real.exp (a * r) * Real.exp (b * r)) :=
        mul_le_mul_of_nonneg_left h1 (by positivity)
    _ = _ := by ring

theorem setIntegral_Ioi_lt {f g : ℝ → ℝ} (hf : IntegrableOn f (Ioi 0)) (hg : IntegrableOn g (Ioi 0))
    (h : ∀ r : ℝ, 0 < r → f r < g r) : ∫ r in Ioi (0 : ℝ), f r < ∫ r in Ioi (0 : ℝ), g r := by
  rw [← sub_pos, ← integral_sub hg hf, setIntegral_pos_iff_support_of_nonneg_ae
    (ae_restrict_of_forall_mem measurableSet_Ioi fun r hr => (sub_pos.2 (h r hr)).le) (hg.sub hf)]
  have hsub : Ioi (0 : ℝ) ⊆ Function.support (fun r => g r - f r) ∩ Ioi 0 :=
    fun r hr => ⟨(sub_pos.2 (h r hr)).ne', hr⟩
  refine lt_of_lt_of_le ?_ (measure_mono hsub)
  simp

theorem integral_Ioi_deriv_eq_zero (F F' : ℝ → ℝ) (hd : ∀ r ∈ Ioi (0 : ℝ), HasDerivAt F (F' r) r)
    (hc : ContinuousWithinAt F (Ici 0) 0) (h0 : F 0 = 0)
    (hF : IntegrableOn F (Ioi 0)) (hF' : IntegrableOn F' (Ioi 0)) : ∫ r in Ioi (0 : ℝ), F' r = 0 := by
  have ht := tendsto_zero_of_hasDerivAt_of_integrableOn_Ioi hd hF' hF
  rw [integral_Ioi_of_hasDerivAt_of_tendsto hc hd hF' ht, h0, sub_zero]

/-- the part of an integration by parts that holds the derivative `a₁ r^(d₁-1) A₁ + a₂ r^(d₂-1) A₂` of one factor.  The
derivatives met here contain `1/r` (d = 0), so they are only derivatives on r > 0 and their integrability is part of
the statement. -/
theorem gauss_piece (p : ℝ) (hp : 0 < p) (m : ℕ) {A₁ A₂ B : ℝ → ℝ} (hA₁ : ExpType A₁) (hA₂ : ExpType A₂) (hB : ExpType B)
    (a₁ a₂ : ℝ) (d₁ d₂ : ℕ) :
    IntegrableOn (fun r : ℝ => r ^ (m + 1) * Real.exp (-p * r ^ 2)
        * (a₁ * r ^ d₁ / r * A₁ r + a₂ * r ^ d₂ / r * A₂ r) * B r) (Ioi 0)
    ∧ (∫ r in Ioi (0 : ℝ), r ^ (m + 1) * Real.exp (-p * r ^ 2) * (a₁ * r ^ d₁ / r * A₁ r + a₂ * r ^ d₂ / r * A₂ r) * B r)
      = a₁ * gaussInt p (m + d₁) A₁ B + a₂ * gaussInt p (m + d₂) A₂ B := by
  have j1 := (hA₁.integrableOn hB p hp (m + d₁)).const_mul a₁
  have j2 := (hA₂.integrableOn hB p hp (m + d₂)).const_mul a₂
  have k : IntegrableOn (fun r : ℝ => a₁ * (r ^ (m + d₁) * Real.exp (-p * r ^ 2) * A₁ r * B r)
      + a₂ * (r ^ (m + d₂) * Real.exp (-p * r ^ 2) * A₂ r * B r)) (Ioi 0) := j1.add j2
  have e : EqOn (fun r : ℝ => a₁ * (r ^ (m + d₁) * Real.exp (-p * r ^ 2) * A₁ r * B r)
      + a₂ * (r ^ (m + d₂) * Real.exp (-p * r ^ 2) * A₂ r * B r))
      (fun r : ℝ => r ^ (m + 1) * Real.exp (-p * r ^ 2)
        * (a₁ * r ^ d₁ / r * A₁ r + a₂ * r ^ d₂ / r * A₂ r) * B r) (Ioi 0) := by
    intro r hr
    have hr0 : r ≠ 0 := (show (0 : ℝ) < r from hr).ne'
    simp only [pow_add]
    field_simp
  refine ⟨k.congr_fun e measurableSet_Ioi, ?_⟩
  rw [← setIntegral_congr_fun measurableSet_Ioi e, integral_add j1 j2, integral_const_mul, integral_const_mul]
  rfl

/-- `A` is of exponential type and its derivative on r > 0 is `a₁ r^(d₁-1) A₁ + a₂ r^(d₂-1) A₂` with `A₁`, `A₂` again of
exponential type: what a factor of the integrand of `ibp_gauss` has to be, and the shape the derivatives of `i_l(c r)` and
`cosh(c r)` have -/
structure Factor (A : ℝ → ℝ) (a₁ : ℝ) (d₁ : ℕ) (A₁ : ℝ → ℝ) (a₂ : ℝ) (d₂ : ℕ) (A₂ : ℝ → ℝ) : Prop where
  expType : ExpType A
  expType₁ : ExpType A₁
  expType₂ : ExpType A₂
  hasDerivAt : ∀ r : ℝ, 0 < r → HasDerivAt A (a₁ * r ^ d₁ / r * A₁ r + a₂ * r ^ d₂ / r * A₂ r) r

/-- integration by parts for `r^(m+1) e^{-p r²} A(r) B(r)` on (0,∞): the four pieces of the derivative integrate to 0 -/
theorem ibp_gauss (p : ℝ) (hp : 0 < p) (m : ℕ) {A B A₁ A₂ B₁ B₂ : ℝ → ℝ} {a₁ a₂ b₁ b₂ : ℝ} {d₁ d₂ e₁ e₂ : ℕ}
    (fA : Factor A a₁ d₁ A₁ a₂ d₂ A₂) (fB : Factor B b₁ e₁ B₁ b₂ e₂ B₂) :
    ((m : ℝ) + 1) * gaussInt p m A B - 2 * p * gaussInt p (m + 2) A B
      + a₁ * gaussInt p (m + d₁) A₁ B + a₂ * gaussInt p (m + d₂) A₂ B
      + b₁ * gaussInt p (m + e₁) A B₁ + b₂ * gaussInt p (m + e₂) A B₂ = 0 := by
  obtain ⟨hA, hA₁, hA₂, dA⟩ := fA
  obtain ⟨hB, hB₁, hB₂, dB⟩ := fB
  obtain ⟨iA, eA⟩ := gauss_piece p hp m hA₁ hA₂ hB a₁ a₂ d₁ d₂
  obtain ⟨iB, eB⟩ := gauss_piece p hp m hB₁ hB₂ hA b₁ b₂ e₁ e₂
  have j1 := (hA.integrableOn hB p hp m).const_mul ((m : ℝ) + 1)
  have j2 := (hA.integrableOn hB p hp (m + 2)).const_mul (2 * p)
  have iF := hA.integrableOn hB p hp (m + 1)
  have cA := hA.1
  have cB := hB.1
  have hd : ∀ r ∈ Ioi (0 : ℝ), HasDerivAt (fun r : ℝ => r ^ (m + 1) * Real.exp (-p * r ^ 2) * A r * B r)
      (((m : ℝ) + 1) * (r ^ m * Real.exp (-p * r ^ 2) * A r * B r)
        - 2 * p * (r ^ (m + 2) * Real.exp (-p * r ^ 2) * A r * B r)
        + r ^ (m + 1) * Real.exp (-p * r ^ 2) * (a₁ * r ^ d₁ / r * A₁ r + a₂ * r ^ d₂ / r * A₂ r) * B r
        + r ^ (m + 1) * Real.exp (-p * r ^ 2) * (b₁ * r ^ e₁ / r * B₁ r + b₂ * r ^ e₂ / r * B₂ r) * A r) r := by
    intro r hr
    have h1 : HasDerivAt (fun r : ℝ => r ^ (m + 1)) (((m + 1 : ℕ) : ℝ) * r ^ m) r := by
      simpa using hasDerivAt_pow (m + 1) r
    have h2 : HasDerivAt (fun r : ℝ => Real.exp (-p * r ^ 2)) (Real.exp (-p * r ^ 2) * (-p * (2 * r))) r := by
      have hq : HasDerivAt (fun r : ℝ => -p * r ^ 2) (-p * (2 * r)) r := by
        simpa using (hasDerivAt_pow 2 r).const_mul (-p)
      exact hq.exp
    refine (((h1.mul h2).mul (dA r hr)).mul (dB r hr)).congr_deriv ?_
    simp only [Pi.mul_apply]
    push_cast
    ring
  have hc : ContinuousWithinAt (fun r : ℝ => r ^ (m + 1) * Real.exp (-p * r ^ 2) * A r * B r) (Ici 0) 0 :=
    (by fun_prop : Continuous fun r : ℝ => r ^ (m + 1) * Real.exp (-p * r ^ 2) * A r * B r).continuousWithinAt
  have k2 : IntegrableOn (fun r : ℝ => ((m : ℝ) + 1) * (r ^ m * Real.exp (-p * r ^ 2) * A r * B r)
        - 2 * p * (r ^ (m + 2) * Real.exp (-p * r ^ 2) * A r * B r)) (Ioi 0) := j1.sub j2
  have k3 : IntegrableOn (fun r : ℝ => ((m : ℝ) + 1) * (r ^ m * Real.exp (-p * r ^ 2) * A r * B r)
        - 2 * p * (r ^ (m + 2) * Real.exp (-p * r ^ 2) * A r * B r)
        + r ^ (m + 1) * Real.exp (-p * r ^ 2) * (a₁ * r ^ d₁ / r * A₁ r + a₂ * r ^ d₂ / r * A₂ r) * B r) (Ioi 0) :=
    k2.add iA
  have h := integral_Ioi_deriv_eq_zero _ _ hd hc (by simp) iF (k3.add iB)
  rw [integral_add k3 iB, integral_add k2 iA, integral_sub j1 j2, integral_const_mul, integral_const_mul, eA, eB,
    gaussInt_comm p _ B₁, gaussInt_comm p _ B₂] at h
  unfold gaussInt at h ⊢
  linarith only [h]

end Ecpint.RadialReal
