/- Equations for the radial recurrences of `Model/RadialRec.lean`.

   `recI`/`recJ` hand `start` down unchanged and `leaf` reads it only through the parity of `N - start`, so the value of a
   sub-call does not depend on which `Q` it was reached from: `Q` itself satisfies eqs 28, 29 and 33, and a `Q` at given
   orders is one step of a recurrence from `Q`s at lower orders.  The one exception is first order ≥ 1 at second order 0,
   where the ν-call of `recI` stays at second order 0 (truncated subtraction) and so flips the parity; that value is `Qm`.
   Everything here holds over the bare operations the model is written with. -/
import Ecpint.Model.RadialRec
namespace Ecpint.RadialRec
variable {K : Type}

theorem leaf_F {s N : Int} (h : (N - s) % 2 = 0) (fam : Fam K) : leaf fam s N = fam.F N := by
  rw [leaf, if_pos h]

theorem leaf_GB {s N : Int} (h : (N - s) % 2 = 1) (fam : Fam K) : leaf fam s N = fam.GB N := by
  have h' : (N - s) % 2 ≠ 0 := by omega
  rw [leaf, if_neg h']

theorem leaf_congr {s s' : Int} (hs : s % 2 = s' % 2) (fam : Fam K) (N : Int) : leaf fam s N = leaf fam s' N := by
  have e : (N - s) % 2 = (N - s') % 2 := by omega
  rw [leaf, leaf, e]

theorem valuesOf_zero (fam : Fam K) : valuesOf fam 0 = fam.F 2 := rfl

variable [Add K] [Mul K] [Div K] [IntCast K]

theorem recJ_congr {s s' : Int} (hs : s % 2 = s' % 2) (y : K) (fam : Fam K) :
    ∀ (j : Nat) (k : Int), recJ y fam s j k = recJ y fam s' j k
  | 0, k => by rw [recJ, recJ, leaf_congr hs]
  | 1, k => by rw [recJ, recJ, leaf_congr hs, leaf_congr hs]
  | j + 2, k => by simp only [recJ, recJ_congr hs y fam j, recJ_congr hs y fam (j + 1)]

variable [Neg K]

theorem recI_congr {s s' : Int} (hs : s % 2 = s' % 2) (p x y : K) (fam : Fam K) :
    ∀ (i j : Nat) (k : Int), recI p x y fam s i j k = recI p x y fam s' i j k
  | 0, j, k => by rw [recI, recI, recJ_congr hs]
  | i + 1, j, k => by simp only [recI, recI_congr hs p x y fam i]

variable (p x y : K) (fam : Fam K)

theorem recI_eq_Q {s : Int} {i j : Nat} {k : Int} (hs : s % 2 = (k - i - j) % 2) :
    recI p x y fam s i j k = Q p x y fam i j k :=
  recI_congr hs p x y fam i j k

theorem Q_zero_zero (k : Int) : Q p x y fam 0 0 k = fam.F k := by
  rw [Q, recI, recJ, leaf_F (by omega)]

theorem Q_zero_one (k : Int) :
    Q p x y fam 0 1 k = fam.GB k + ((-1 : Int) : K) / (((2 : Int) : K) * y) * fam.F (k - 1) := by
  rw [Q, recI, recJ, leaf_GB (by omega), leaf_F (by omega)]

/-- eqs 29/33 for `Q` itself -/
theorem Q_zero_add_two (j : Nat) (k : Int) :
    Q p x y fam 0 (j + 2) k = Q p x y fam 0 j k
      + (((1 - 2 * ((j : Int) + 2) : Int) : K) / (((2 : Int) : K) * y)) * Q p x y fam 0 (j + 1) (k - 1) := by
  rw [Q, Q, Q, recI, recI, recI, recJ]
  rw [recJ_congr (s' := k - ((0 : Nat) : Int) - (j : Nat)) (by push_cast; omega) y fam j,
    recJ_congr (s' := k - 1 - ((0 : Nat) : Int) - ((j + 1 : Nat) : Int)) (by push_cast; omega) y fam (j + 1)]

/-- eq 28 for `Q` itself, second order ≥ 1 -/
theorem Q_succ_succ (i j : Nat) (k : Int) :
    Q p x y fam (i + 1) (j + 1) k =
      (((2 + ((j + 1 : Nat) : Int) - ((i : Int) + 1) - k : Int) : K) / (((2 : Int) : K) * x)) * Q p x y fam i (j + 1) (k - 1)
      + (-y / x) * Q p x y fam i j k
      + (p / x) * Q p x y fam i (j + 1) (k + 1) := by
  rw [Q, recI, Nat.add_sub_cancel, recI_eq_Q p x y fam (by push_cast; omega), recI_eq_Q p x y fam (by push_cast; omega),
    recI_eq_Q p x y fam (by push_cast; omega)]

/-- `Q_succ_succ` with the three lower values supplied, in the orientation `value = Q …` of the closed-form cases; the orders
of a call at numerals then only have to agree with `j + 1`, `k - 1`, `k + 1` up to evaluation -/
theorem Q_step (i j : Nat) (k : Int) {a b c : K} (ha : a = Q p x y fam i (j + 1) (k - 1)) (hb : b = Q p x y fam i j k)
    (hc : c = Q p x y fam i (j + 1) (k + 1)) :
    Q p x y fam (i + 1) (j + 1) k =
      (((2 + ((j + 1 : Nat) : Int) - ((i : Int) + 1) - k : Int) : K) / (((2 : Int) : K) * x)) * a + (-y / x) * b + (p / x) * c := by
  rw [Q_succ_succ, ha, hb, hc]

theorem Q_zero_step (j : Nat) (k : Int) {a b : K} (ha : a = Q p x y fam 0 j k) (hb : b = Q p x y fam 0 (j + 1) (k - 1)) :
    Q p x y fam 0 (j + 2) k = a + (((1 - 2 * ((j : Int) + 2) : Int) : K) / (((2 : Int) : K) * y)) * b := by
  rw [Q_zero_add_two, ha, hb]

/-- what `recI` computes at second order 0 when reached through a ν-call from second order 0: the base integrals have the
opposite parity to those of `Q p x y fam i 0 k` (over the integrals, second order −1 in place of 0) -/
def Qm (i : Nat) (k : Int) : K := recI p x y fam (k - i - 1) i 0 k

theorem recI_eq_Qm {s : Int} {i : Nat} {k : Int} (hs : s % 2 = (k - i - 1) % 2) :
    recI p x y fam s i 0 k = Qm p x y fam i k :=
  recI_congr hs p x y fam i 0 k

theorem Qm_zero (k : Int) : Qm p x y fam 0 k = fam.GB k := by
  rw [Qm, recI, recJ, leaf_GB (by push_cast; omega)]

/-- eq 28 as `recI` evaluates it at second order 0 -/
theorem Q_succ_zero (i : Nat) (k : Int) :
    Q p x y fam (i + 1) 0 k =
      (((2 + ((0 : Nat) : Int) - ((i : Int) + 1) - k : Int) : K) / (((2 : Int) : K) * x)) * Q p x y fam i 0 (k - 1)
      + (-y / x) * Qm p x y fam i k
      + (p / x) * Q p x y fam i 0 (k + 1) := by
  rw [Q, recI, Nat.zero_sub, recI_eq_Q p x y fam (by push_cast; omega), recI_eq_Qm p x y fam (by push_cast; omega),
    recI_eq_Q p x y fam (by push_cast; omega)]

theorem Qm_succ (i : Nat) (k : Int) :
    Qm p x y fam (i + 1) k =
      (((2 + ((0 : Nat) : Int) - ((i : Int) + 1) - k : Int) : K) / (((2 : Int) : K) * x)) * Qm p x y fam i (k - 1)
      + (-y / x) * Q p x y fam i 0 k
      + (p / x) * Qm p x y fam i (k + 1) := by
  rw [Qm, recI, Nat.zero_sub, recI_eq_Qm p x y fam (by push_cast; omega), recI_eq_Q p x y fam (by push_cast; omega),
    recI_eq_Qm p x y fam (by push_cast; omega)]

end Ecpint.RadialRec
