/-
Measure-theory helper lemmas for Props/C13c.lean: the polar decomposition of an additive Haar measure for integrands
of the form (function on the sphere) × (function of the radius), the Gaussian moments on ℝ, and Fubini on
`EuclideanSpace ℝ ι`.
-/
import Mathlib.MeasureTheory.Constructions.HaarToSphere
import Mathlib.MeasureTheory.Integral.Gamma
import Mathlib.MeasureTheory.Integral.Pi

namespace Ecpint.SphereInt
open MeasureTheory Set Metric Real

section polar
variable {E : Type*} [NormedAddCommGroup E] [NormedSpace ℝ E] [MeasurableSpace E]
  [Nontrivial E] (μ : Measure E) [FiniteDimensional ℝ E] [BorelSpace E] [μ.IsAddHaarMeasure]

/-- no integrability hypothesis is needed: both sides are 0 together by the conventions of the Bochner integral -/
theorem integral_sphere_mul_radial (G : E → ℝ) (h : sphere (0 : E) 1 → ℝ) (f : ℝ → ℝ)
    (hG : ∀ (u : sphere (0 : E) 1) (r : ℝ), 0 < r → G (r • u.1) = h u * f r) :
    ∫ x, G x ∂μ = (∫ u, h u ∂μ.toSphere) * ∫ r in Ioi (0 : ℝ), r ^ (Module.finrank ℝ E - 1) * f r := by
  calc
    ∫ x, G x ∂μ = ∫ x : ({(0)}ᶜ : Set E), G x.1 ∂(μ.comap (↑)) := by
      rw [integral_subtype_comap (measurableSet_singleton _).compl fun x ↦ G x,
        restrict_compl_singleton]
    _ = ∫ p, h p.1 * f p.2.1 ∂μ.toSphere.prod (.volumeIoiPow (Module.finrank ℝ E - 1)) := by
      have := μ.measurePreserving_homeomorphUnitSphereProd.integral_comp
        (Homeomorph.measurableEmbedding _) (fun p => h p.1 * f p.2.1)
      rw [← this]
      refine integral_congr_ae (.of_forall fun x => ?_)
      have hx := (homeomorphUnitSphereProd E).symm_apply_apply x
      have h2 := hG (homeomorphUnitSphereProd E x).1 (homeomorphUnitSphereProd E x).2.1
        (homeomorphUnitSphereProd E x).2.2
      rw [← homeomorphUnitSphereProd_symm_apply_coe, hx] at h2
      exact h2
    _ = (∫ u, h u ∂μ.toSphere) * ∫ r : Ioi (0 : ℝ), f r.1 ∂.volumeIoiPow (Module.finrank ℝ E - 1) :=
      integral_prod_mul h (fun r : Ioi (0 : ℝ) => f r.1)
    _ = _ := by
      congr 1
      simp only [Measure.volumeIoiPow, ENNReal.ofReal]
      rw [integral_withDensity_eq_integral_smul,
        integral_subtype_comap measurableSet_Ioi
          fun a ↦ Real.toNNReal (a ^ (Module.finrank ℝ E - 1)) • f a,
        setIntegral_congr_fun measurableSet_Ioi fun x hx ↦ ?_]
      · rw [NNReal.smul_def, Real.coe_toNNReal _ (pow_nonneg hx.out.le _), smul_eq_mul]
      · exact (measurable_subtype_coe.pow_const _).real_toNNReal

end polar

theorem integral_Ioi_pow_mul_exp_neg_sq (n : ℕ) :
    ∫ r in Ioi (0 : ℝ), r ^ n * exp (-r ^ 2) = 1 / 2 * Gamma (((n : ℝ) + 1) / 2) := by
  have := integral_rpow_mul_exp_neg_rpow (p := 2) (q := (n : ℝ)) (by norm_num)
    (by have : (0 : ℝ) ≤ n := Nat.cast_nonneg n
        linarith)
  rw [← this]
  refine setIntegral_congr_fun measurableSet_Ioi fun x _ => ?_
  simp only [rpow_natCast, rpow_two]

theorem integral_pow_even_mul_exp_neg_sq (i : ℕ) :
    ∫ t : ℝ, t ^ (2 * i) * exp (-t ^ 2) = Gamma ((i : ℝ) + 1 / 2) := by
  have h := integral_comp_abs (f := fun t : ℝ => t ^ (2 * i) * exp (-t ^ 2))
  simp only [Even.pow_abs (even_two_mul i), sq_abs] at h
  rw [h, integral_Ioi_pow_mul_exp_neg_sq]
  have : (((2 * i : ℕ) : ℝ) + 1) / 2 = (i : ℝ) + 1 / 2 := by
    push_cast
    ring
  rw [this]
  ring

theorem integral_euclidean_prod {ι : Type*} [Fintype ι] (f : ι → ℝ → ℝ) :
    ∫ v : EuclideanSpace ℝ ι, ∏ i, f i (v i) = ∏ i, ∫ t, f i t := by
  have := (EuclideanSpace.volume_preserving_symm_measurableEquiv_toLp ι).integral_comp'
    (g := fun x : ι → ℝ => ∏ i, f i (x i))
  rw [← integral_fintype_prod_volume_eq_prod, ← this]
  rfl

end Ecpint.SphereInt
