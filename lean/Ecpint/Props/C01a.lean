/- C01 — shell-pair integrals (`compute_shell_pair`; pipeline model Model/ShellPair.lean).
   Here: which indices the loops of Model/Contraction.lean, which the pipeline model runs, visit. -/
import Ecpint.Lemmas.CartOrder
namespace Ecpint.C01
open Ecpint.Contraction

theorem parityRange_mem (n p l : Nat) : l ∈ parityRange n p ↔ l ≤ n ∧ l % 2 = p % 2 := by
  rw [parityRange, List.mem_filter, List.mem_range, Nat.lt_succ_iff, decide_eq_true_eq]

theorem subIdx_mem (c a : Nat × Nat × Nat) :
    a ∈ subIdx c ↔ a.1 ≤ c.1 ∧ a.2.1 ≤ c.2.1 ∧ a.2.2 ≤ c.2.2 := by
  obtain ⟨a1, a2, a3⟩ := a
  simp only [subIdx, List.mem_flatMap, List.mem_map, List.mem_range, Nat.lt_succ_iff, Prod.mk.injEq]
  constructor
  · rintro ⟨x, hx, y, hy, z, hz, rfl, rfl, rfl⟩
    exact ⟨hx, hy, hz⟩
  · rintro ⟨h1, h2, h3⟩
    exact ⟨a1, h1, a2, h2, a3, h3, rfl, rfl, rfl⟩

theorem cartList_mem (L : Nat) (t : Nat × Nat × Nat) : t ∈ cartList L ↔ t.1 + t.2.1 + t.2.2 = L :=
  Deriv.cartList_mem_deg L t

end Ecpint.C01
