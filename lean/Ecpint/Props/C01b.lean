/- C01 (part b) — Cartesian enumeration, binomial shift, Gamma table, Gaussian moments.
   Definitions: Ecpint/Model/Contraction.lean, Ecpint/Gen/GammaTable.lean (the GAMMA table of the working tree). -/
import Ecpint.Lemmas.C01b
import Ecpint.Lemmas.CartOrder
import Ecpint.Lemmas.FoldSumFinset
import Mathlib.MeasureTheory.Integral.Gamma
namespace Ecpint.C01
open Ecpint.Contraction
open Ecpint.C01b

/-- a shell of angular momentum L has (L+1)(L+2)/2 Cartesian components -/
theorem cartList_length (L : Nat) : (cartList L).length = ncart L :=
  Deriv.cartList_length_tri L

/-- no component is listed twice -/
theorem cartList_nodup (L : Nat) : (cartList L).Nodup := by
  unfold cartList
  dsimp only
  rw [List.nodup_flatMap]
  constructor
  · -- inside the block of x = L - i the y-exponent (L - x) - j determines j ≤ L - x
    intro i _
    generalize L - (L - i) = n
    refine List.Nodup.map_on (fun j hj j' hj' h => ?_) List.nodup_range
    have hy : n - j = n - j' := (Prod.mk.inj (Prod.mk.inj h).2).1
    rw [List.mem_range] at hj hj'
    omega
  · -- blocks of different i ≤ L differ in the x-exponent L - i
    refine List.nodup_range.pairwise_of_forall_ne (fun i hi i' hi' hne c hc hc' => hne ?_)
    obtain ⟨_, _, rfl⟩ := List.mem_map.mp hc
    obtain ⟨_, _, h⟩ := List.mem_map.mp hc'
    have hx : L - i' = L - i := (Prod.mk.inj h).1
    rw [List.mem_range] at hi hi'
    omega

/-- the documented ordering: component (x, y, z) sits at position (y+z)(y+z+1)/2 + z  (x descending, then y descending) -/
theorem cartList_index (L x y z : Nat) (h : x + y + z = L) :
    (cartList L)[(y + z) * (y + z + 1) / 2 + z]? = some (x, y, z) := by
  have hx : L - y - z = x := by omega
  rw [← Deriv.nIdx_eq_nat, ← hx]
  exact Deriv.cartList_get_tri L y z (by omega)

/-- binomial shift of one Cartesian factor to the ECP centre: with the factorial table filled as `initFactorials` does
and exact arithmetic, Σ_m calcC(a, m, A) X^m = (X − A)^a -/
theorem makeC_binomial {K : Type} [Field K] [CharZero K] (fac : Array K) (a : Nat) (A X : K)
    (hfac : ∀ i ≤ a, fac.getD i 0 = (i.factorial : K)) :
    ((List.range (a + 1)).map fun m => calcC fac (fun x n => x ^ n) a m A * X ^ m).sum = (X - A) ^ a := by
  rw [FoldSum.sum_map_range, sub_eq_add_neg, add_pow]
  refine Finset.sum_congr rfl (fun m hm => ?_)
  have hm' : m ≤ a := Nat.lt_succ_iff.mp (Finset.mem_range.mp hm)
  rw [calcC_eq fac a m A hfac hm']
  ring

/-- GAMMA[i] as a real number -/
noncomputable def gammaEntry (i : Nat) : ℝ :=
  let q := Gen.gammaTable.getD i (0, 1)
  (q.1 : ℝ) / (q.2 : ℝ)

theorem gammaEntry_eq (i : Nat) : gammaEntry i = ((gammaEntryQ i : ℚ) : ℝ) := by
  simp [gammaEntry, gammaEntryQ]

/-- the tabulated constants are Γ((i+1)/2) to 14 digits, for the whole table -/
theorem gamma_table_accurate : ∀ i < 30,
    |gammaEntry i - Real.Gamma (((i : ℝ) + 1) / 2)| ≤ 1e-13 * Real.Gamma (((i : ℝ) + 1) / 2) := by
  intro i hi
  rcases Nat.even_or_odd' i with ⟨k, rfl | rfl⟩
  · have hk : k < 15 := by omega
    rw [gamma_even, gammaEntry_eq]
    obtain ⟨h1, h2⟩ := table_even k hk
    have := close_of_bracket _ _ 1e-13 (dfrac_pos k) (by norm_num) (by norm_num) h1 h2
    convert this using 2
    norm_num
  · have hk : k < 15 := by omega
    rw [gamma_odd, gammaEntry_eq, table_odd k hk]
    simp only [Rat.cast_natCast, sub_self, abs_zero]
    positivity

/-- the closed form used when both shells sit on the ECP centre: ∫₀^∞ r^N e^{-p r²} dr = ½ Γ((N+1)/2) p^{-(N+1)/2} -/
theorem gaussian_moment (N : Nat) (p : ℝ) (hp : 0 < p) :
    ∫ r in Set.Ioi (0 : ℝ), r ^ N * Real.exp (-p * r ^ 2)
      = (1 / 2) * Real.Gamma (((N : ℝ) + 1) / 2) * p ^ (-(((N : ℝ) + 1) / 2)) := by
  have h := integral_rpow_mul_exp_neg_mul_rpow (p := (2 : ℝ)) (q := (N : ℝ)) (b := p) (by norm_num)
    (by have : (0 : ℝ) ≤ N := Nat.cast_nonneg N
        linarith) hp
  have h2 : ∫ r in Set.Ioi (0 : ℝ), r ^ N * Real.exp (-p * r ^ 2)
      = ∫ r in Set.Ioi (0 : ℝ), r ^ (N : ℝ) * Real.exp (-p * r ^ (2 : ℝ)) := by
    refine MeasureTheory.setIntegral_congr_fun measurableSet_Ioi (fun r hr => ?_)
    simp only [Real.rpow_natCast, Real.rpow_two]
  rw [h2, h]
  have : -((N : ℝ) + 1) / 2 = -(((N : ℝ) + 1) / 2) := by ring
  rw [this]
  ring

end Ecpint.C01
