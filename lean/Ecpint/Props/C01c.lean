/- C01 (part c) — the parity shortcuts of the contraction are lossless.
   The stride-2 loop over lam2 in `rolled_up` (and the generator) skips (lam1, lam2) pairs of the wrong joint parity.  That
   loses nothing because the type-2 angular table vanishes on the skipped entries, which in turn follows from the write
   pattern of the type-1 table (Props/C13a `wWritten_parity`).  Definitions: Model/Angular.lean, Model/Contraction.lean. -/
import Ecpint.Model.Angular
import Ecpint.Model.Contraction
import Ecpint.Props.C07
import Ecpint.Props.C09
import Ecpint.Props.C13a
import Ecpint.Lemmas.Contraction
import Ecpint.Lemmas.C09
import Ecpint.Lemmas.Angular
namespace Ecpint.C01
open Ecpint.Angular Ecpint.Contraction

theorem foldl_fixed {β γ : Type} (z : β) (l : List γ) (F : β → γ → β) (h : ∀ x ∈ l, F z x = z) :
    l.foldl F z = z := by
  induction l with
  | nil => rfl
  | cons x l ih =>
    rw [List.foldl_cons, h x (List.mem_cons_self), ih (fun y hy => h y (List.mem_cons_of_mem _ hy))]

theorem parity_shift {a b s : Nat} (h : (a + b) % 2 ≠ s % 2) : a % 2 ≠ (s + b) % 2 := by
  omega

section Tables
variable {α : Type} [Flt α]

/-- entries of the type-1 table with λ of the wrong parity are never written: they are 0 -/
theorem wEntry_parity_zero (U : Nat → Nat → Nat → Nat → Nat → α) (P : Nat → Nat → Nat → α)
    (maxLam k l m lam idx : Nat) (h : lam % 2 ≠ (k + l + m) % 2) :
    wEntry U P maxLam k l m lam idx = 0 :=
  AngularLemmas.wEntry_of_none U P maxLam k l m lam idx (Ecpint.C13.wWritten_parity maxLam k l m lam idx (Or.inl h))

/-- one iteration of `makeOmega` sums U · W(k+i, l+j, m+λ−i−j, ρ, ·) over i + j ≤ λ: every W it reads has total degree
k+l+m+λ, so with a W table that vanishes for the wrong parity the whole sum vanishes unless ρ ≡ k+l+m+λ (mod 2).
(`hmul`, `hadd`: the two facts about 0 the argument needs; they hold in every semiring, at IEEE doubles only for finite x
and up to the sign of zero) -/
theorem omegaIter_parity_zero (hmul : ∀ x : α, x * 0 = 0) (hadd : (0 : α) + 0 = 0)
    (U : Nat → Nat → Nat → Nat → Nat → α) (Wf : Nat → Nat → Nat → Nat → Nat → α)
    (hW : ∀ k l m lam idx, lam % 2 ≠ (k + l + m) % 2 → Wf k l m lam idx = 0)
    (k l m rho sig lam mu : Nat) (minus : Bool) (h : rho % 2 ≠ (k + l + m + lam) % 2) :
    omegaIter U Wf k l m rho sig lam mu minus = 0 := by
  unfold omegaIter
  dsimp only
  refine foldl_fixed _ _ _ (fun i hi => ?_)
  refine foldl_fixed _ _ _ (fun j hj => ?_)
  have hi' : i < lam + 1 := List.mem_range.mp hi
  have hj' : j < lam - i + 1 := List.mem_range.mp hj
  have hdeg : k + i + (l + j) + (m + lam - i - j) = k + l + m + lam := by omega
  rw [hW (k + i) (l + j) (m + lam - i - j) rho sig (hdeg ▸ h), hmul, hadd]

/-- hence the stored type-2 entry omega(k,l,m; a,·; b,·) is 0 unless a + b ≡ k + l + m (mod 2) -/
theorem omegaEntry_parity_zero (hmul : ∀ x : α, x * 0 = 0) (hadd : (0 : α) + 0 = 0)
    (U : Nat → Nat → Nat → Nat → Nat → α) (Wf : Nat → Nat → Nat → Nat → Nat → α)
    (hW : ∀ k l m lam idx, lam % 2 ≠ (k + l + m) % 2 → Wf k l m lam idx = 0)
    (k l m a ia b ib : Nat) (h : (a + b) % 2 ≠ (k + l + m) % 2) :
    omegaEntry U Wf k l m a ia b ib = 0 := by
  rcases AngularLemmas.omegaEntry_eq_iter U Wf k l m a ia b ib with ⟨_, e⟩ | ⟨_, e⟩
  · rw [e]
    exact omegaIter_parity_zero hmul hadd U Wf hW _ _ _ _ _ _ _ _ (parity_shift h)
  · rw [e]
    exact omegaIter_parity_zero hmul hadd U Wf hW _ _ _ _ _ _ _ _ (parity_shift (Nat.add_comm a b ▸ h))

end Tables

section Stride
variable {K : Type} [CommSemiring K]
open Ecpint.ContractionLemmas Ecpint.C09Lemmas

theorem wContr_parity_zero (omega : Nat → Nat → Nat → Nat → Nat → Nat → Nat → K) (lam : Nat)
    (hpar : ∀ (k l m mi l' m1 : Nat), (lam + l') % 2 ≠ (k + l + m) % 2 → omega k l m lam mi l' m1 = 0)
    (S : Array (Array K)) (a : Nat × Nat × Nat) (lam1 mi : Nat) (h : (lam + lam1) % 2 ≠ tsum a % 2) :
    wContr omega lam S a lam1 mi = 0 := by
  rw [C09.wContr_eq_sum]
  exact sum_map_eq_zero (fun m1 _ => by rw [hpar _ _ _ _ _ _ h, mul_zero])

/-- the rolled-up sum WITHOUT the parity stride: lam2 runs over all of 0 … lam + |b| -/
def rolledUpSumFull (omega : Nat → Nat → Nat → Nat → Nat → Nat → Nat → K) (keep : K → Bool) (prefac : K) (lam : Nat)
    (radials : Nat → Nat → Nat → K) (CAna CBnb : Nat → Nat → Nat → K) (SA SB : Array (Array K))
    (ca cb : Nat × Nat × Nat) (mi : Nat) : K :=
  ((subIdx ca).map fun a => ((subIdx cb).map fun b =>
    let C := CAna a.1 a.2.1 a.2.2 * CBnb b.1 b.2.1 b.2.2
    if keep C then
      ((List.range (lam + tsum a + 1)).map fun lam1 =>
        ((List.range (lam + tsum b + 1)).map fun lam2 =>
          prefac * C * radials (tsum a + tsum b) lam1 lam2 * wContr omega lam SA a lam1 mi * wContr omega lam SB b lam2 mi).sum).sum
    else 0).sum).sum

/-- the stride-2 loop over lam2 is lossless: if the angular table vanishes for lam1 ≢ lam + |a| (mod 2) — which
`omegaEntry_parity_zero` proves of the model's table — the strided sum the code runs equals the full double sum of the
published expansion -/
theorem rolledUp_parity_stride_lossless (omega : Nat → Nat → Nat → Nat → Nat → Nat → Nat → K) (keep : K → Bool) (prefac : K) (lam : Nat)
    (hpar : ∀ (k l m mi l' m1 : Nat), (lam + l') % 2 ≠ (k + l + m) % 2 → omega k l m lam mi l' m1 = 0)
    (radials : Nat → Nat → Nat → K) (CAna CBnb : Nat → Nat → Nat → K) (SA SB : Array (Array K))
    (ca cb : Nat × Nat × Nat) (mi : Nat) :
    C07.rolledUpSum omega keep prefac lam radials CAna CBnb SA SB ca cb mi
      = rolledUpSumFull omega keep prefac lam radials CAna CBnb SA SB ca cb mi := by
  unfold C07.rolledUpSum rolledUpSumFull
  dsimp only
  refine sum_map_congr (fun a _ => sum_map_congr (fun b _ => ?_))
  split
  · refine sum_map_congr (fun lam1 _ => ?_)
    unfold parityRange
    refine sum_filter_drop _ _ _ (fun lam2 _ hp => ?_)
    have hp' : lam2 % 2 ≠ (lam1 + (tsum a + tsum b)) % 2 := by simpa using hp
    by_cases h1 : (lam + lam1) % 2 = tsum a % 2
    · rw [wContr_parity_zero omega lam hpar SB b lam2 mi (by omega), mul_zero]
    · rw [wContr_parity_zero omega lam hpar SA a lam1 mi h1, mul_zero, zero_mul]
  · rfl

end Stride

/-! ### non-vacuity: a concrete instance over ℕ whose table satisfies `hpar` and whose two sums are the same non-zero number -/
section NonVacuity

/-- a table that is non-zero exactly on the parity-allowed entries -/
def exOmega : Nat → Nat → Nat → Nat → Nat → Nat → Nat → Nat :=
  fun k l m a ia b ib => if (a + b) % 2 = (k + l + m) % 2 then k + l + m + ia + ib + 1 else 0

def exSA : Array (Array Nat) := #[#[1], #[1, 2, 3], #[1, 1, 2, 1, 1]]

def exSB : Array (Array Nat) := #[#[2], #[3, 1, 1], #[1, 2, 1, 2, 1]]

example : ∀ (k l m mi l' m1 : Nat), (1 + l') % 2 ≠ (k + l + m) % 2 → exOmega k l m 1 mi l' m1 = 0 := by
  intro k l m mi l' m1 h
  simp [exOmega, h]

/-- the strided sum of the instance (lam = 1, ca = (1,0,0), cb = (0,1,0), mu index 1) -/
example : C07.rolledUpSum exOmega (fun c => c != 0) 2 1 (fun N l1 l2 => N + l1 + 2 * l2 + 1)
    (fun k l m => k + l + m + 1) (fun k l m => k + 2 * l + m + 1) exSA exSB (1, 0, 0) (0, 1, 0) 1 = 177292 := by decide +kernel

example : rolledUpSumFull exOmega (fun c => c != 0) 2 1 (fun N l1 l2 => N + l1 + 2 * l2 + 1)
    (fun k l m => k + l + m + 1) (fun k l m => k + 2 * l + m + 1) exSA exSB (1, 0, 0) (0, 1, 0) 1 = 177292 := by decide +kernel

example : C07.rolledUpSum exOmega (fun c => c != 0) 2 1 (fun N l1 l2 => N + l1 + 2 * l2 + 1)
    (fun k l m => k + l + m + 1) (fun k l m => k + 2 * l + m + 1) exSA exSB (1, 0, 0) (0, 1, 0) 1
    = rolledUpSumFull exOmega (fun c => c != 0) 2 1 (fun N l1 l2 => N + l1 + 2 * l2 + 1)
    (fun k l m => k + l + m + 1) (fun k l m => k + 2 * l + m + 1) exSA exSB (1, 0, 0) (0, 1, 0) 1 :=
  rolledUp_parity_stride_lossless exOmega _ 2 1 (fun k l m mi l' m1 h => by simp [exOmega, h]) _ _ _ _ _ _ _ _

/-- without `hpar` the two sums differ: with a table that is 1 everywhere the strided sum drops non-zero terms -/
example : C07.rolledUpSum (fun _ _ _ _ _ _ _ => 1) (fun c => c != 0) 2 1 (fun N l1 l2 => N + l1 + 2 * l2 + 1)
    (fun k l m => k + l + m + 1) (fun k l m => k + 2 * l + m + 1) exSA exSB (1, 0, 0) (0, 1, 0) 1
    ≠ rolledUpSumFull (fun _ _ _ _ _ _ _ => 1) (fun c => c != 0) 2 1 (fun N l1 l2 => N + l1 + 2 * l2 + 1)
    (fun k l m => k + l + m + 1) (fun k l m => k + 2 * l + m + 1) exSA exSB (1, 0, 0) (0, 1, 0) 1 := by decide +kernel

end NonVacuity
end Ecpint.C01
