/- C01 (part d) — the special routine for a shell on the ECP centre is the general rolled-up contraction specialised:
   with A on the centre the binomial shift of shell A is trivial (C_A(a) = [a = ca]), only l1 = 0 radial integrals are
   non-zero, the harmonic S_00 is a constant, and 16π² · S_00 = 8π√π.  Definitions: Model/Contraction.lean. -/
import Ecpint.Props.C07
import Ecpint.Props.C09
import Ecpint.Props.C01a
import Ecpint.Lemmas.FoldSum
import Mathlib.Tactic.Ring
namespace Ecpint.C01
open Ecpint.Contraction Ecpint.ContractionLemmas Ecpint.C09Lemmas

variable {K : Type} [CommSemiring K]

/-- explicit-sum form of one entry of `rolled_up_special` -/
def rolledUpSpecialSum (omega : Nat → Nat → Nat → Nat → Nat → Nat → Nat → K) (keep : K → Bool) (prefac : K) (lam : Nat)
    (radials : Nat → Nat → Nat → K) (CBnb : Nat → Nat → Nat → K) (SB : Array (Array K))
    (ca cb : Nat × Nat × Nat) (mi : Nat) : K :=
  ((subIdx cb).map fun b =>
    let C := CBnb b.1 b.2.1 b.2.2
    if keep C then
      ((parityRange (lam + tsum b) (tsum ca + tsum b)).map fun lam2 =>
        ((List.range (2 * lam2 + 1)).map fun m2 =>
          prefac * C * radials (tsum ca + tsum b) 0 lam2 * get2 SB lam2 m2
            * omega ca.1 ca.2.1 ca.2.2 lam mi 0 0 * omega b.1 b.2.1 b.2.2 lam mi lam2 m2).sum).sum
    else 0).sum

theorem rolledUpSpecialBlock_eq (omega : Nat → Nat → Nat → Nat → Nat → Nat → Nat → K) (keep : K → Bool) (prefac : K) (lam : Nat)
    (radials : Nat → Nat → Nat → K) (CBnb : Nat → Nat → Nat → K) (SB : Array (Array K))
    (ca cb : Nat × Nat × Nat) :
    rolledUpSpecialBlock omega keep prefac lam radials CBnb SB ca cb
      = (Array.range (2 * lam + 1)).map (rolledUpSpecialSum omega keep prefac lam radials CBnb SB ca cb) := by
  unfold rolledUpSpecialBlock rolledUpSpecialSum
  simp only [foldl_mapIdx_add, ite_mapIdx_add, replicate_mapIdx_add]

theorem sum_subIdx_single (c : Nat × Nat × Nat) (F : Nat × Nat × Nat → K)
    (hF : ∀ a ∈ subIdx c, a ≠ c → F a = 0) : ((subIdx c).map F).sum = F c := by
  obtain ⟨c1, c2, c3⟩ := c
  rw [sum_subIdx]
  dsimp only
  rw [FoldSum.sum_range_single (c1 + 1) c1, if_pos (Nat.lt_add_one c1), FoldSum.sum_range_single (c2 + 1) c2,
    if_pos (Nat.lt_add_one c2), FoldSum.sum_range_single (c3 + 1) c3, if_pos (Nat.lt_add_one c3)]
  · intro az haz hne
    exact hF _ ((subIdx_mem _ _).mpr ⟨Nat.le_refl _, Nat.le_refl _, Nat.le_of_lt_succ haz⟩)
      (fun h => hne (Prod.mk.inj (Prod.mk.inj h).2).2)
  · intro ay hay hne
    refine sum_map_eq_zero (fun az haz => ?_)
    exact hF _ ((subIdx_mem _ _).mpr ⟨Nat.le_refl _, Nat.le_of_lt_succ hay, Nat.le_of_lt_succ (List.mem_range.mp haz)⟩)
      (fun h => hne (Prod.mk.inj (Prod.mk.inj h).2).1)
  · intro ax hax hne
    refine sum_map_eq_zero (fun ay hay => sum_map_eq_zero (fun az haz => ?_))
    exact hF _ ((subIdx_mem _ _).mpr ⟨Nat.le_of_lt_succ hax, Nat.le_of_lt_succ (List.mem_range.mp hay),
      Nat.le_of_lt_succ (List.mem_range.mp haz)⟩) (fun h => hne (Prod.mk.inj h).1)

/-- the special routine is the general one under the on-centre facts: C_A is the indicator of the full exponent triple,
radial integrals with l1 > 0 vanish, S_A(0,0) = s00 and prefac · s00 = prefacS (16π² · 1/√(4π) = 8π√π) -/
theorem special_is_general (omega : Nat → Nat → Nat → Nat → Nat → Nat → Nat → K) (prefac prefacS s00 : K) (lam : Nat)
    (radials : Nat → Nat → Nat → K) (CAna CBnb : Nat → Nat → Nat → K) (SA SB : Array (Array K))
    (ca cb : Nat × Nat × Nat) (mi : Nat)
    (hCA : ∀ a ∈ subIdx ca, CAna a.1 a.2.1 a.2.2 = if a = ca then 1 else 0)
    (hrad : ∀ N l1 l2, 0 < l1 → radials N l1 l2 = 0)
    (hS : get2 SA 0 0 = s00) (hpre : prefac * s00 = prefacS) :
    C07.rolledUpSum omega (fun _ => true) prefac lam radials CAna CBnb SA SB ca cb mi
      = rolledUpSpecialSum omega (fun _ => true) prefacS lam radials CBnb SB ca cb mi := by
  unfold C07.rolledUpSum rolledUpSpecialSum
  dsimp only
  simp only [if_true]
  rw [sum_subIdx_single]
  · have h1 : CAna ca.1 ca.2.1 ca.2.2 = 1 := by rw [hCA ca ((subIdx_mem ca ca).mpr ⟨Nat.le_refl _, Nat.le_refl _, Nat.le_refl _⟩), if_pos rfl]
    refine sum_map_congr (fun b _ => ?_)
    rw [FoldSum.sum_range_single (lam + tsum ca + 1) 0, if_pos (Nat.succ_pos _)]
    · rw [Nat.zero_add]
      refine sum_map_congr (fun lam2 _ => ?_)
      rw [C09.wContr_eq_sum, C09.wContr_eq_sum, h1, ← List.sum_map_mul_left]
      refine sum_map_congr (fun m2 _ => ?_)
      have h0 : List.range (2 * 0 + 1) = [0] := rfl
      rw [h0]
      simp only [List.map_cons, List.map_nil, List.sum_cons, List.sum_nil, add_zero]
      rw [hS, ← hpre]
      ring
    · intro l1 _ hne
      refine sum_map_eq_zero (fun lam2 _ => ?_)
      rw [hrad _ l1 _ (Nat.pos_of_ne_zero hne)]
      simp only [mul_zero, zero_mul]
  · intro a ha hne
    refine sum_map_eq_zero (fun b _ => sum_map_eq_zero (fun lam1 _ => sum_map_eq_zero (fun lam2 _ => ?_)))
    rw [hCA a ha, if_neg hne]
    simp only [mul_zero, zero_mul]

/-- array form: without the shortcut, the block the special routine computes is the block the general routine computes
on the on-centre data -/
theorem specialBlock_is_generalBlock (omega : Nat → Nat → Nat → Nat → Nat → Nat → Nat → K) (prefac prefacS s00 : K) (lam : Nat)
    (radials : Nat → Nat → Nat → K) (CAna CBnb : Nat → Nat → Nat → K) (SA SB : Array (Array K))
    (ca cb : Nat × Nat × Nat)
    (hCA : ∀ a ∈ subIdx ca, CAna a.1 a.2.1 a.2.2 = if a = ca then 1 else 0)
    (hrad : ∀ N l1 l2, 0 < l1 → radials N l1 l2 = 0)
    (hS : get2 SA 0 0 = s00) (hpre : prefac * s00 = prefacS) :
    rolledUpBlock omega (fun _ => true) prefac lam radials CAna CBnb SA SB ca cb
      = rolledUpSpecialBlock omega (fun _ => true) prefacS lam radials CBnb SB ca cb := by
  rw [C07.rolledUpBlock_eq, rolledUpSpecialBlock_eq]
  exact range_map_congr fun mi _ =>
    special_is_general omega prefac prefacS s00 lam radials CAna CBnb SA SB ca cb mi hCA hrad hS hpre

/-! ### non-vacuity: a concrete instance over ℕ (lam = 1, ca = (1,0,1), cb = (0,1,1), mi = 1) -/
namespace ExampleD

def om : Nat → Nat → Nat → Nat → Nat → Nat → Nat → Nat :=
  fun ax ay az lam mi lam1 m1 => ax + 2 * ay + az + lam + mi + lam1 * m1 + 1
/-- radial integrals vanish for l1 > 0 (shell A on the centre) -/
def rad : Nat → Nat → Nat → Nat := fun N l1 l2 => if l1 = 0 then N + l2 + 1 else 0
/-- the binomial table of shell A on the centre: the indicator of the full exponent triple (1,0,1) -/
def cA : Nat → Nat → Nat → Nat := fun k l m => if (k, l, m) = ((1, 0, 1) : Nat × Nat × Nat) then 1 else 0

def cB : Nat → Nat → Nat → Nat := fun k l m => k + 3 * l + m + 1

def sA : Array (Array Nat) := #[#[3], #[1, 2, 3], #[2, 0, 1, 1, 3], #[1, 1, 0, 2, 0, 1, 1]]

def sB : Array (Array Nat) := #[#[2], #[0, 1, 1], #[1, 0, 3, 0, 1], #[1, 2, 0, 1, 0, 0, 2]]

theorem hCA : ∀ a ∈ subIdx (1, 0, 1), cA a.1 a.2.1 a.2.2 = if a = ((1, 0, 1) : Nat × Nat × Nat) then 1 else 0 := by
  intro a _
  rfl

theorem hrad : ∀ N l1 l2, 0 < l1 → rad N l1 l2 = 0 := by
  intro N l1 l2 h
  simp [rad, Nat.ne_of_gt h]

theorem special_value : rolledUpSpecialSum om (fun _ => true) 6 1 rad cB sB (1, 0, 1) (0, 1, 1) 1 = 73140 := by
  decide +kernel

example : rolledUpSpecialSum om (fun _ => true) 6 1 rad cB sB (1, 0, 1) (0, 1, 1) 1 = 73140 := special_value

/-- the general routine on the on-centre data (prefac = 2, s00 = 3, prefacS = 6) -/
example : C07.rolledUpSum om (fun _ => true) 2 1 rad cA cB sA sB (1, 0, 1) (0, 1, 1) 1 = 73140 := by decide +kernel

example : C07.rolledUpSum om (fun _ => true) 2 1 rad cA cB sA sB (1, 0, 1) (0, 1, 1) 1 = 73140 :=
  (special_is_general om 2 6 3 1 rad cA cB sA sB (1, 0, 1) (0, 1, 1) 1 hCA hrad rfl rfl).trans special_value

example : (rolledUpSpecialBlock om (fun _ => true) 6 1 rad cB sB (1, 0, 1) (0, 1, 1)).getD 1 0 = 73140 := by
  rw [rolledUpSpecialBlock_eq, getD_range_map _ _ _ (by decide)]
  exact special_value

example : (rolledUpBlock om (fun _ => true) 2 1 rad cA cB sA sB (1, 0, 1) (0, 1, 1)).getD 1 0
    = (rolledUpSpecialBlock om (fun _ => true) 6 1 rad cB sB (1, 0, 1) (0, 1, 1)).getD 1 0 := by
  rw [C07.rolledUpBlock_getD _ _ _ _ _ _ _ _ _ _ _ 1 (by decide), rolledUpSpecialBlock_eq,
    getD_range_map _ _ _ (by decide)]
  exact special_is_general om 2 6 3 1 rad cA cB sA sB (1, 0, 1) (0, 1, 1) 1 hCA hrad rfl rfl

end ExampleD

end Ecpint.C01
