/- C01 (part e) — the strided (lam, mu) loops of `ECPIntegral::type1` visit exactly the entries of the type-1 angular
   table that `makeW` writes (all others are 0): the parity strides and the sign rule `msign = 1 − 2(l % 2)` lose nothing. -/
import Ecpint.Props.C01a
import Ecpint.Props.C13a
namespace Ecpint.C01
open Ecpint.Angular Ecpint.Contraction

/-- for a table built with maxLam ≥ k+l+m (the engine's table covers every degree the shell pair can produce), the triple
(lam, mu, idx) is visited by the loops of type 1 for the monomial x^k y^l z^m iff `makeW` wrote W(k,l,m,lam,idx) for that mu -/
theorem type1_loops_visit_exactly_written (maxLam k l m lam idx mu : Nat) (hmax : k + l + m ≤ maxLam) :
    (lam ∈ parityRange (k + l + m) (k + l + m) ∧ mu ∈ parityRange lam (k + l + m + m) ∧
        idx = (if l % 2 = 1 then lam - mu else lam + mu))
      ↔ wWritten maxLam k l m lam idx = some mu := by
  -- the loop over mu starts at (k+l+m+m) % 2, `makeW` screens mu by (k+l) % 2
  have hp : (k + l + m + m) % 2 = (k + l) % 2 := by omega
  rw [C13.wWritten_spec, parityRange_mem, parityRange_mem, Nat.min_eq_right hmax, hp]
  rcases Nat.mod_two_eq_zero_or_one l with hl | hl
  · have hl' : ¬ l % 2 = 1 := by omega
    rw [if_neg hl']
    constructor
    · rintro ⟨⟨h1, h2⟩, ⟨h3, h4⟩, h5⟩
      exact ⟨h2, h1, h4, h3, Or.inl ⟨hl, h5⟩⟩
    · rintro ⟨h1, h2, h3, h4, ⟨_, h5⟩ | ⟨h5, _⟩⟩
      · exact ⟨⟨h2, h1⟩, ⟨h4, h3⟩, h5⟩
      · exact absurd h5 hl'
  · rw [if_pos hl]
    constructor
    · rintro ⟨⟨h1, h2⟩, ⟨h3, h4⟩, h5⟩
      exact ⟨h2, h1, h4, h3, Or.inr ⟨hl, by omega⟩⟩
    · rintro ⟨h1, h2, h3, h4, ⟨h5, _⟩ | ⟨_, h5⟩⟩
      · omega
      · exact ⟨⟨h2, h1⟩, ⟨h4, h3⟩, by omega⟩

end Ecpint.C01
