/- C01 (part f) — the strided (lam, mu) loops of type 1 are lossless: they produce the full sum over ALL table entries
   (lam ≤ k+l+m, every stored index 0 … 2 lam) of C · W · R, because the type-1 table is zero wherever `makeW` did not write.
   Definitions: Model/Contraction.lean (`type1Entry`), Props/C07.lean (`type1Term`, `type1Sum`), Model/Angular.lean. -/
import Ecpint.Props.C07
import Ecpint.Props.C01e
import Ecpint.Props.C01c
import Ecpint.Lemmas.Contraction
import Ecpint.Lemmas.C09
import Mathlib.Algebra.BigOperators.Group.Finset.Basic
namespace Ecpint.C01
open Ecpint.Angular Ecpint.Contraction Ecpint.ContractionLemmas

variable {K : Type} [CommSemiring K]

/-- the contribution of one monomial x^k y^l z^m WITHOUT strides: every lam ≤ k+l+m and every stored index 0 … 2 lam -/
def type1TermFull (W : Nat → Nat → Nat → Nat → Nat → K) (keep : K → Bool) (radials : Nat → Nat → Nat → K)
    (k l m : Nat) (C : K) : K :=
  if keep C then
    ((List.range (k + l + m + 1)).map fun lam =>
      ((List.range (2 * lam + 1)).map fun idx =>
        C * W k l m lam idx * radials (k + l + m) lam idx).sum).sum
  else 0

theorem sum_reindex (n N : Nat) (p : Nat → Bool) (φ : Nat → Nat) (g : Nat → K)
    (hφ : ∀ mu, mu < n → p mu = true → φ mu < N)
    (hinj : ∀ mu mu', mu < n → mu' < n → p mu = true → p mu' = true → φ mu = φ mu' → mu = mu')
    (hz : ∀ idx, idx < N → (∀ mu, mu < n → p mu = true → φ mu ≠ idx) → g idx = 0) :
    (((List.range n).filter p).map fun mu => g (φ mu)).sum = ((List.range N).map g).sum := by
  rw [← List.sum_toFinset _ (List.nodup_range.filter _), ← List.sum_toFinset _ List.nodup_range, ← Finset.sum_image]
  · refine Finset.sum_subset (fun idx h => ?_) (fun idx h1 h2 => ?_)
    · obtain ⟨mu, hmu, rfl⟩ := Finset.mem_image.mp h
      simp only [List.mem_toFinset, List.mem_filter, List.mem_range] at hmu ⊢
      exact hφ mu hmu.1 hmu.2
    · refine hz idx (by simpa using h1) (fun mu hmu hp he => h2 (Finset.mem_image.mpr ⟨mu, ?_, he⟩))
      simp only [List.mem_toFinset, List.mem_filter, List.mem_range]
      exact ⟨hmu, hp⟩
  · intro mu hmu mu' hmu' he
    simp only [List.coe_toFinset, List.mem_filter, List.mem_range, Set.mem_ofPred_eq] at hmu hmu'
    exact hinj mu mu' hmu.1 hmu'.1 hmu.2 hmu'.2 he

/-- for a table that vanishes wherever `makeW` (with a limit M covering the degree) did not write, the strided double loop
of type 1 equals the full double sum: the lam-stride drops rows that are zero, the mu-stride with the sign rule
`msign` is a reindexing of the written entries of the row -/
theorem type1Term_stride_lossless (W : Nat → Nat → Nat → Nat → Nat → K) (keep : K → Bool) (radials : Nat → Nat → Nat → K)
    (M k l m : Nat) (C : K) (hM : k + l + m ≤ M)
    (hW : ∀ lam idx, wWritten M k l m lam idx = none → W k l m lam idx = 0) :
    C07.type1Term W keep radials k l m C = type1TermFull W keep radials k l m C := by
  unfold C07.type1Term type1TermFull
  split
  · refine Eq.trans ?_ (sum_filter_drop (List.range (k + l + m + 1)) (fun lam => decide (lam % 2 = (k + l + m) % 2)) _
      fun lam _ hp => C09Lemmas.sum_map_eq_zero fun idx _ => ?_)
    · refine sum_map_congr (fun lam hlam => ?_)
      refine sum_reindex (lam + 1) (2 * lam + 1) _ (fun mu => if l % 2 = 1 then lam - mu else lam + mu)
        (fun idx => C * W k l m lam idx * radials (k + l + m) lam idx) (fun mu hmu _ => by split <;> omega)
        (fun mu mu' hmu hmu' _ _ h => by split at h <;> omega) (fun idx _ hno => ?_)
      rw [hW lam idx, mul_zero, zero_mul]
      -- an index that no mu of the loop reaches is not written
      by_contra hw
      obtain ⟨mu, hw⟩ := Option.ne_none_iff_exists'.mp hw
      obtain ⟨_, hmu, hidx⟩ := (type1_loops_visit_exactly_written M k l m lam idx mu hM).mpr hw
      have hmu' := (parityRange_mem _ _ _).mp hmu
      exact hno mu (by omega) (by simpa using hmu'.2) hidx.symm
    · rw [hW lam idx (C13.wWritten_parity M k l m lam idx (Or.inl (by simpa using hp))), mul_zero, zero_mul]
  · rfl

/-- the explicit-sum form of the type-1 element WITHOUT strides (`type1TermFull` in place of `C07.type1Term`) -/
def type1SumFull (W : Nat → Nat → Nat → Nat → Nat → K) (keep : K → Bool) (radials : Nat → Nat → Nat → K)
    (CAna CBnb : Nat → Nat → Nat → K) (ca cb : Nat × Nat × Nat) : K :=
  ((List.range (ca.1 + 1)).map fun k1 => ((List.range (cb.1 + 1)).map fun k2 =>
    ((List.range (ca.2.1 + 1)).map fun l1 => ((List.range (cb.2.1 + 1)).map fun l2 =>
      ((List.range (ca.2.2 + 1)).map fun m1 => ((List.range (cb.2.2 + 1)).map fun m2 =>
        type1TermFull W keep radials (k1 + k2) (l1 + l2) (m1 + m2) (CAna k1 l1 m1 * CBnb k2 l2 m2)).sum).sum).sum).sum).sum).sum

/-- the whole type-1 element: with a table limit M covering the total degree of the shell pair and a table that vanishes
wherever `makeW` did not write, the strided loops give the full six-fold sum of full double sums -/
theorem type1Sum_stride_lossless (W : Nat → Nat → Nat → Nat → Nat → K) (keep : K → Bool) (radials : Nat → Nat → Nat → K)
    (CAna CBnb : Nat → Nat → Nat → K) (ca cb : Nat × Nat × Nat) (M : Nat) (hM : tsum ca + tsum cb ≤ M)
    (hW : ∀ k l m, k + l + m ≤ M → ∀ lam idx, wWritten M k l m lam idx = none → W k l m lam idx = 0) :
    C07.type1Sum W keep radials CAna CBnb ca cb = type1SumFull W keep radials CAna CBnb ca cb := by
  unfold C07.type1Sum type1SumFull
  unfold tsum at hM
  refine sum_map_congr (fun k1 hk1 => sum_map_congr (fun k2 hk2 => ?_))
  refine sum_map_congr (fun l1 hl1 => sum_map_congr (fun l2 hl2 => ?_))
  refine sum_map_congr (fun m1 hm1 => sum_map_congr (fun m2 hm2 => ?_))
  rw [List.mem_range] at hk1 hk2 hl1 hl2 hm1 hm2
  have hd : (k1 + k2) + (l1 + l2) + (m1 + m2) ≤ M := by omega
  exact type1Term_stride_lossless W keep radials M _ _ _ _ hd (hW _ _ _ hd)

/-! ### non-vacuity: a table that is non-zero exactly on the written entries; both sums are the same non-zero number, and
without the hypothesis on the table the two sums differ -/
section NonVacuity

/-- non-zero exactly where `makeW` (limit 4) writes -/
def exW : Nat → Nat → Nat → Nat → Nat → Nat :=
  fun k l m lam idx => match wWritten 4 k l m lam idx with
    | none => 0
    | some mu => k + 2 * l + 3 * m + lam * mu + 1

theorem exW_zero (k l m lam idx : Nat) (h : wWritten 4 k l m lam idx = none) : exW k l m lam idx = 0 := by
  simp [exW, h]

example : C07.type1Term exW (fun c => c != 0) (fun N a b => N + a + 2 * b + 1) 1 1 1 2 = 514 := by decide +kernel

example : type1TermFull exW (fun c => c != 0) (fun N a b => N + a + 2 * b + 1) 1 1 1 2 = 514 := by decide +kernel

example : C07.type1Term exW (fun c => c != 0) (fun N a b => N + a + 2 * b + 1) 1 1 1 2
    = type1TermFull exW (fun c => c != 0) (fun N a b => N + a + 2 * b + 1) 1 1 1 2 :=
  type1Term_stride_lossless exW _ _ 4 1 1 1 2 (by decide) (fun lam idx h => exW_zero 1 1 1 lam idx h)

/-- with a table that is 1 everywhere the strided loops drop non-zero terms -/
example : C07.type1Term (fun _ _ _ _ _ => 1) (fun c => c != 0) (fun N a b => N + a + 2 * b + 1) 1 1 1 2
    ≠ type1TermFull (fun _ _ _ _ _ => 1) (fun c => c != 0) (fun N a b => N + a + 2 * b + 1) 1 1 1 2 := by decide +kernel

end NonVacuity

end Ecpint.C01
