/- C01 (part g) — the binomial shift of a whole Cartesian function to the ECP centre: the coefficients the contractions
   read for the exponent triples of `subIdx` expand ∏_q (r_q − A_q)^{a_q} in monomials.  From `makeC_binomial` (C01b). -/
import Ecpint.Props.C01b
import Ecpint.Lemmas.Contraction
import Mathlib.Tactic.Ring
namespace Ecpint.C01
open Ecpint.Contraction Ecpint.ContractionLemmas

/-- three-dimensional binomial shift: summing C(k) C(l) C(m) X^k Y^l Z^m over exactly the index triples the contraction
loops visit (`subIdx (x, y, z)`) gives (X − A₁)^x (Y − A₂)^y (Z − A₃)^z -/
theorem makeC_binomial_3d {K : Type} [Field K] [CharZero K] (fac : Array K) (x y z : Nat) (A1 A2 A3 X Y Z : K)
    (hfac : ∀ i, i ≤ max x (max y z) → fac.getD i 0 = (i.factorial : K)) :
    ((subIdx (x, y, z)).map fun a =>
        calcC fac (fun t n => t ^ n) x a.1 A1 * calcC fac (fun t n => t ^ n) y a.2.1 A2 * calcC fac (fun t n => t ^ n) z a.2.2 A3
          * (X ^ a.1 * Y ^ a.2.1 * Z ^ a.2.2)).sum
      = (X - A1) ^ x * (Y - A2) ^ y * (Z - A3) ^ z := by
  have hx := makeC_binomial fac x A1 X (fun i hi => hfac i (le_trans hi (le_max_left _ _)))
  have hy := makeC_binomial fac y A2 Y
    (fun i hi => hfac i (le_trans hi (le_trans (le_max_left _ _) (le_max_right _ _))))
  have hz := makeC_binomial fac z A3 Z
    (fun i hi => hfac i (le_trans hi (le_trans (le_max_right _ _) (le_max_right _ _))))
  rw [sum_subIdx, ← hx, ← hy, ← hz, sum_mul_sum_mul_sum]
  dsimp only
  refine sum_map_congr fun k _ => sum_map_congr fun l _ => sum_map_congr fun m _ => ?_
  ring

end Ecpint.C01
