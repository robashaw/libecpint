/-
C02 — analytic first derivatives of a shell pair: the assembly.

Model: Ecpint/Model/Deriv.lean (`N_INDEX` from Gen/IndexMaps.lean, regenerated every run).
Proved here, for EVERY angular momentum (no MAX_L), over any commutative ring:
  * the Cartesian loops enumerate x^k y^l z^m, k+l+m = L, with row `N_INDEX(l,m)`;
  * `left_shell_derivative` returns −a_q·Q₋[a − e_q] + 2·Q₊[a + e_q], every row it reads is in range,
    and a clamped row is only ever multiplied by 0;
  * `compute_shell_pair_derivative`: the nine matrices with three distinct centres, the translational
    sum rule A + B + C = 0 in every centre-coincidence branch, and additivity at coincident centres (the
    sum over coincident centres is minus the derivative of the remaining centre);
  * the calculus identity behind it: d/dA [(x−A)^k e^{−α(x−A)²}].
-/
import Ecpint.Lemmas.Deriv
import Mathlib.Tactic.IntervalCases
import Mathlib.Analysis.SpecialFunctions.ExpDeriv
import Mathlib.Analysis.Calculus.Deriv.Pow

namespace Ecpint.C02
open Ecpint.Deriv

theorem nIdx_eq (l m : Nat) : nIdx l m = (l + m) * (l + m + 1) / 2 + m :=
  nIdx_eq_nat l m

theorem cartList_length (L : Nat) : (cartList L).length = ncart L :=
  cartList_length_tri L

theorem cartList_get (L l m : Nat) (h : l + m ≤ L) :
    (cartList L)[nIdx l m]? = some (L - l - m, l, m) :=
  cartList_get_tri L l m h

theorem cartList_mem (L : Nat) (a : Nat × Nat × Nat) :
    a ∈ cartList L ↔ a.1 + a.2.1 + a.2.2 = L :=
  cartList_mem_deg L a

def rowOf (a : Nat × Nat × Nat) : Nat := nIdx a.2.1 a.2.2

def inc (a : Nat × Nat × Nat) (q : Nat) : Nat × Nat × Nat :=
  if q = 0 then (a.1 + 1, a.2.1, a.2.2) else if q = 1 then (a.1, a.2.1 + 1, a.2.2) else (a.1, a.2.1, a.2.2 + 1)

def dec (a : Nat × Nat × Nat) (q : Nat) : Nat × Nat × Nat :=
  if q = 0 then (a.1 - 1, a.2.1, a.2.2) else if q = 1 then (a.1, a.2.1 - 1, a.2.2) else (a.1, a.2.1, a.2.2 - 1)

def deg (a : Nat × Nat × Nat) : Nat := a.1 + a.2.1 + a.2.2

theorem rowOf_lt (a : Nat × Nat × Nat) : rowOf a < ncart (deg a) := by
  obtain ⟨k, l, m⟩ := a
  exact nIdx_lt_ncart (by simp only [deg]; omega)

theorem cartList_rowOf (a : Nat × Nat × Nat) : (cartList (deg a))[rowOf a]? = some a := by
  obtain ⟨k, l, m⟩ := a
  exact cartList_get_deg k l m

/-! `inc`, `dec`, `comp` with the coordinate as a variable: what is said below about "the direction q"
goes through these lemmas and never splits on q again. -/

theorem deg_inc (a : Nat × Nat × Nat) (q : Nat) : deg (inc a q) = deg a + 1 := by
  unfold inc deg
  split_ifs <;> dsimp only <;> omega

theorem comp_le_deg (a : Nat × Nat × Nat) (q : Nat) : comp a q ≤ deg a := by
  unfold comp deg
  split_ifs <;> omega

theorem comp_inc (a : Nat × Nat × Nat) {p q : Nat} (hp : p < 3) (hq : q < 3) :
    comp (inc a p) q = comp a q + if p = q then 1 else 0 := by
  interval_cases p <;> interval_cases q <;> rfl

theorem comp_dec (a : Nat × Nat × Nat) {p q : Nat} (hp : p < 3) (hq : q < 3) :
    comp (dec a p) q = comp a q - if p = q then 1 else 0 := by
  interval_cases p <;> interval_cases q <;> rfl

theorem dec_inc (a : Nat × Nat × Nat) (q : Nat) : dec (inc a q) q = a := by
  unfold dec inc
  split_ifs <;> rfl

theorem inc_dec (a : Nat × Nat × Nat) (q : Nat) (h : comp a q ≠ 0) : inc (dec a q) q = a := by
  obtain ⟨k, l, m⟩ := a
  unfold comp at h
  unfold dec inc
  split_ifs at h ⊢ <;> dsimp only at h ⊢ <;> rw [Nat.sub_add_cancel (Nat.pos_of_ne_zero h)]

theorem deg_dec (a : Nat × Nat × Nat) (q : Nat) (h : comp a q ≠ 0) : deg (dec a q) = deg a - 1 := by
  have hd := deg_inc (dec a q) q
  rw [inc_dec a q h] at hd
  omega

/-! `idxPlus`, `idxMinus` (Model/Deriv.lean) are `nA_p[q]`, `nA_m[q]` of the source, clamp and default
included; `left_shell_derivative` and `mixed_second_derivative` read their blocks at these rows. -/

theorem idxPlus_eq (a : Nat × Nat × Nat) (q : Nat) (hq : q < 3) :
    idxPlus a.2.1 a.2.2 q = rowOf (inc a q) := by
  interval_cases q <;> rfl

/-- with a nonzero multiplier a_q neither the clamp nor the default is active -/
theorem idxMinus_eq (a : Nat × Nat × Nat) (q : Nat) (hq : q < 3) {rows : Nat}
    (hr : ncart (deg a - 1) ≤ rows) (h : comp a q ≠ 0) :
    idxMinus a.2.1 a.2.2 rows q = rowOf (dec a q) := by
  obtain ⟨k, l, m⟩ := a
  change ncart (k + l + m - 1) ≤ rows at hr
  change idxMinus l m rows q = _
  interval_cases q
  · have hk : k ≠ 0 := h
    have hlt : nIdx l m < ncart (k + l + m - 1) := nIdx_lt_ncart (by omega)
    exact Nat.min_eq_left (by omega)
  · exact if_pos (Nat.pos_of_ne_zero h)
  · exact if_pos (Nat.pos_of_ne_zero h)

theorem idxMinus_lt (a : Nat × Nat × Nat) (q : Nat) {rows : Nat} (hr : ncart (deg a - 1) ≤ rows) :
    idxMinus a.2.1 a.2.2 rows q < rows := by
  obtain ⟨k, l, m⟩ := a
  change ncart (k + l + m - 1) ≤ rows at hr
  have hpos : 0 < rows := Nat.lt_of_lt_of_le (ncart_pos _) hr
  have hin : ∀ l' m', l' + m' + 1 ≤ k + l + m → nIdx l' m' < rows := fun l' m' h =>
    Nat.lt_of_lt_of_le (nIdx_lt_ncart (Nat.le_sub_one_of_lt h)) hr
  dsimp only [idxMinus]
  split_ifs
  · omega
  · exact hin _ _ (by omega)
  · exact hpos
  · exact hin _ _ (by omega)
  · exact hpos

section
variable {R : Type} [CommRing R]

/-- `Q_minus.dims[0]` as the routine sees it: the (LA−1)-shell when LA > 0 (unused when LA = 0) -/
def qmRows (LA : Nat) : Nat := ncart (LA - 1)

/-- **`left_shell_derivative` computes −a_q·Q₋[a − e_q] + 2·Q₊[a + e_q]**; the `Q₋` term is absent
exactly when a_q = 0 (whatever row the clamps selected). -/
theorem leftFirst_spec (a : Nat × Nat × Nat) (q : Nat) (hq : q < 3) (nB : Nat) (Qm Qp : Blk R) :
    leftFirst (deg a) (qmRows (deg a)) Qm Qp q (rowOf a) nB
      = (if comp a q = 0 then 0 else -((comp a q : Nat) : R) * Qm (rowOf (dec a q)) nB)
        + 2 * Qp (rowOf (inc a q)) nB := by
  obtain ⟨k, l, m⟩ := a
  rw [show deg (k, l, m) = k + l + m from rfl, show rowOf (k, l, m) = nIdx l m from rfl]
  by_cases h0 : k + l + m = 0
  · -- an s shell: the routine returns 2·Q₊[e_q], and e_q sits in row q of the p shell
    obtain rfl : k = 0 := by omega
    obtain rfl : l = 0 := by omega
    obtain rfl : m = 0 := by omega
    interval_cases q <;> simp [leftFirst, rowOf, comp, inc, nIdx_eq_nat, two]
  · rw [leftFirst_pos k l m (Nat.pos_of_ne_zero h0), idxPlus_eq (k, l, m) q hq, two, Nat.cast_ofNat]
    split_ifs with h
    · rw [h, Nat.cast_zero, neg_zero, zero_mul]
    · rw [idxMinus_eq (k, l, m) q hq (rows := qmRows (k + l + m)) le_rfl h]

/-- the rows addressed by the formula are inside the shifted shells -/
theorem leftFirst_rows_in_range (a : Nat × Nat × Nat) (q : Nat) (hq : q < 3) :
    rowOf (inc a q) < ncart (deg a + 1) ∧ (comp a q ≠ 0 → rowOf (dec a q) < ncart (deg a - 1)) :=
  ⟨deg_inc a q ▸ rowOf_lt (inc a q), fun h => deg_dec a q h ▸ rowOf_lt (dec a q)⟩

/-- … and so is every row the code actually reads from `Q_minus`, clamps included (LA > 0) -/
theorem leftFirst_clamps_in_range (k l m : Nat) (hL : 0 < k + l + m) :
    min (nIdx l m) (qmRows (k + l + m) - 1) < qmRows (k + l + m) ∧
    (if l > 0 then nIdx (l - 1) m else 0) < qmRows (k + l + m) ∧
    (if m > 0 then nIdx l (m - 1) else 0) < qmRows (k + l + m) :=
  have h := fun q => idxMinus_lt (k, l, m) q (rows := qmRows (k + l + m)) le_rfl
  ⟨h 0, h 1, h 2⟩

/-- three distinct centres: A-block = QA, B-block = QBᵀ, C-block = −(A + B) -/
theorem pairFirst_distinct (QA QB : Nat → Blk R) (q : Nat) (hq : q < 3) (nA nB : Nat) :
    pairFirst true true QA QB q nA nB = QA q nA nB ∧
    pairFirst true true QA QB (3 + q) nA nB = QB q nB nA ∧
    pairFirst true true QA QB (6 + q) nA nB = -(QA q nA nB + QB q nB nA) := by
  interval_cases q <;> simp [pairFirst, tr]

/-- **translational sum rule** in every branch: the three centre contributions sum to zero -/
theorem pairFirst_sum_rule (aOff bOff : Bool) (QA QB : Nat → Blk R) (q : Nat) (hq : q < 3) (nA nB : Nat) :
    pairFirst aOff bOff QA QB q nA nB + pairFirst aOff bOff QA QB (3 + q) nA nB
      + pairFirst aOff bOff QA QB (6 + q) nA nB = 0 := by
  cases aOff <;> cases bOff <;> interval_cases q <;> simp [pairFirst, tr, zeroB]

/-- **additivity at coincident centres**: with shell A on the ECP centre the A- and C-blocks together
carry −∂_B (the derivative of moving A and C together, by translational invariance). -/
theorem pairFirst_coincident (QA QB : Nat → Blk R) (q : Nat) (hq : q < 3) (nA nB : Nat) :
    (pairFirst false true QA QB q nA nB + pairFirst false true QA QB (6 + q) nA nB = -(QB q nB nA) ∧
      pairFirst false true QA QB (3 + q) nA nB = QB q nB nA) ∧
    (pairFirst true false QA QB (3 + q) nA nB + pairFirst true false QA QB (6 + q) nA nB = -(QA q nA nB) ∧
      pairFirst true false QA QB q nA nB = QA q nA nB) ∧
    (∀ i, pairFirst false false QA QB i nA nB = 0) := by
  refine ⟨?_, ?_, ?_⟩
  · interval_cases q <;> simp [pairFirst, tr, zeroB]
  · interval_cases q <;> simp [pairFirst, zeroB]
  · intro i
    simp [pairFirst, zeroB]

end

/-- the identity `left_shell_derivative` implements; the factor α is what the source's
`tempA.coeffs[i] *= tempA.exps[i]` ("hack in the exponents to the coefficients") supplies -/
theorem deriv_gaussian_monomial (k : ℕ) (α x A : ℝ) :
    HasDerivAt (fun A : ℝ => (x - A) ^ k * Real.exp (-α * (x - A) ^ 2))
      (-(k : ℝ) * (x - A) ^ (k - 1) * Real.exp (-α * (x - A) ^ 2)
        + 2 * α * (x - A) ^ (k + 1) * Real.exp (-α * (x - A) ^ 2)) A := by
  have h1 : HasDerivAt (fun A : ℝ => x - A) (-1) A := by
    simpa using (hasDerivAt_id A).const_sub x
  have h2 : HasDerivAt (fun A : ℝ => (x - A) ^ k) ((k : ℝ) * (x - A) ^ (k - 1) * (-1)) A :=
    HasDerivAt.fun_pow h1 k
  have h3 : HasDerivAt (fun A : ℝ => -α * (x - A) ^ 2)
      (-α * (((2 : ℕ) : ℝ) * (x - A) ^ (2 - 1) * (-1))) A :=
    (HasDerivAt.fun_pow h1 2).const_mul (-α)
  have h4 : HasDerivAt (fun A : ℝ => (x - A) ^ k * Real.exp (-α * (x - A) ^ 2)) _ A :=
    h2.mul h3.exp
  refine h4.congr_deriv ?_
  simp only [Nat.cast_ofNat, Nat.add_one_sub_one, pow_succ]
  ring

/-! ### non-vacuity -/
example : leftFirst (α := Int) 2 (qmRows 2) (fun i j => 10 * i + j) (fun i j => 100 * i + j) 1 (rowOf (1,1,0)) 3
    = -1 * (10 * (rowOf (1,0,0) : Int) + 3) + 2 * (100 * (rowOf (1,2,0) : Int) + 3) := by decide

end Ecpint.C02
