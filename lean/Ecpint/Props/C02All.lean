/- C02 — root of the property's theorems: Props/C02 (the first-derivative assembly, over any commutative ring, and the 1-D
   calculus identity) and what Props/C03b (shared with C03) adds to it: `leftFirst` fed the shifted-shell blocks IS the partial
   derivative of the 3-D primitive; translation invariance ⇒ ∂_C = −(∂_A + ∂_B) (`translation_sum_rule`, `translation_dC`). -/
import Ecpint.Props.C02
import Ecpint.Props.C03b
