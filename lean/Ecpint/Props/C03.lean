/-
C03 — analytic second derivatives of a shell pair: the assembly.

Model: Ecpint/Model/Deriv.lean (`N_INDEX`, `jaas`, `jbbs` from Gen/IndexMaps.lean, regenerated every run).
Proved here for EVERY angular momentum, over any commutative ring:
  * `left_shell_second_derivative` and `mixed_second_derivative` return the l−2 / l / l+2 resp.
    (l_A ± 1, l_B ± 1) combinations for every component; every guard, clamp and zero-filled stand-in
    block for an s shell only meets a zero multiplier.  `leftSecond_rule` says it for all six components
    at once: the routine is the rule of `left_shell_derivative`, −a_q·[a − e_q] + 2·[a + e_q], applied
    along p and then along q;
  * the 45-matrix layout of `compute_shell_pair_second_derivative`, the translational sum rules
    AC = −(AA + AB), BC = −(BB + BA), CC = AA + AB + BA + BB, the irrelevance of the write order of the
    CC block, and the conventions returned when a shell sits on the ECP centre (the hypothesis
    `LowLevelConvention` of C04).
-/
import Ecpint.Props.C02

namespace Ecpint.C03
open Ecpint.Deriv Ecpint.C02

/-- position of the symmetric component {p,q} among xx xy xz yy yz zz -/
def symIdx (p q : Nat) : Nat :=
  if min p q = 0 then max p q else if min p q = 1 then max p q + 2 else 5

/-- `jbbs[3p+q] = 3q+p` (transposed component) -/
theorem jbbs_spec : ∀ p < 3, ∀ q < 3, Gen.jbbs.getD (3 * p + q) 0 = 3 * q + p := by decide
/-- `jaas[3p+q]` is the symmetric component of (p,q) -/
theorem jaas_spec : ∀ p < 3, ∀ q < 3, Gen.jaas.getD (3 * p + q) 0 = symIdx p q := by decide

theorem symIdx_lt {p q : Nat} (hp : p < 3) (hq : q < 3) : symIdx p q < 6 := by
  unfold symIdx
  split_ifs <;> omega

theorem symIdx_comm (p q : Nat) : symIdx p q = symIdx q p := by
  unfold symIdx
  rw [Nat.min_comm, Nat.max_comm]

theorem cc_last_write : ∀ p < 3, ∀ q < 3,
    ((List.range 9).filter fun j => Gen.jaas.getD j 0 = symIdx p q).getLast?.getD 0
      = 3 * max p q + min p q := by decide

section
variable {R : Type} [CommRing R]

/-- `Q_minus.dims[0]` as the routine sees it: the (LA−2)-shell when LA > 1, a 1-row zero block otherwise -/
def qmRows2 (LA : Nat) : Nat := if LA > 1 then ncart (LA - 2) else 1

/-- a clamped or defaulted row only ever meets a zero multiplier -/
theorem mul_row_congr (n : ℕ) (Q : Blk R) (nB : ℕ) {i j : ℕ} (h : n ≠ 0 → i = j) :
    (n : R) * Q i nB = (n : R) * Q j nB := by
  rcases Nat.eq_zero_or_pos n with rfl | hn
  · rw [Nat.cast_zero, zero_mul, zero_mul]
  · rw [h (Nat.ne_of_gt hn)]

/-- shape of a mixed component (xy, xz, yz) of `leftSecond`, `u`, `v` the two exponents, `c₁ c₂ c₃` the
rows the code reads, `i₁ i₂ i₃` the rows of the shifted components -/
theorem mixed_rows (u v : ℕ) (Qm Q0 Qp : Blk R) (nB ipp : ℕ) {c₁ c₂ c₃ i₁ i₂ i₃ : ℕ}
    (h₁ : u ≠ 0 → v ≠ 0 → c₁ = i₁) (h₂ : u ≠ 0 → c₂ = i₂) (h₃ : v ≠ 0 → c₃ = i₃) :
    ((u * v : ℕ) : R) * Qm c₁ nB - two * (u : R) * Q0 c₂ nB - two * (v : R) * Q0 c₃ nB
        + four * Qp ipp nB
      = ((u * v : ℕ) : R) * Qm i₁ nB - 2 * ((u : ℕ) : R) * Q0 i₂ nB - 2 * ((v : ℕ) : R) * Q0 i₃ nB
        + 4 * Qp ipp nB := by
  have h₁' : u * v ≠ 0 → c₁ = i₁ := fun h =>
    h₁ (Nat.ne_zero_of_mul_ne_zero_left h) (Nat.ne_zero_of_mul_ne_zero_right h)
  rw [mul_row_congr _ Qm nB h₁', mul_assoc, mul_assoc, mul_row_congr u Q0 nB h₂,
    mul_row_congr v Q0 nB h₃]
  simp only [two, four, Nat.cast_ofNat]
  ring

/-- shape of a repeated component (xx, yy, zz), `u` the exponent: `−2(2u+1) = −2u − 2(u+1)` -/
theorem repeated_rows (u : ℕ) (Qm Q0 Qp : Blk R) (nB i₀ ipp : ℕ) {c₁ i₁ i₂ : ℕ}
    (h₁ : 2 ≤ u → c₁ = i₁) (h₂ : u ≠ 0 → i₂ = i₀) :
    ((u * (u - 1) : ℕ) : R) * Qm c₁ nB - two * ((2 * u + 1 : ℕ) : R) * Q0 i₀ nB + four * Qp ipp nB
      = ((u * (u - 1) : ℕ) : R) * Qm i₁ nB - 2 * ((u : ℕ) : R) * Q0 i₂ nB
        - 2 * ((u + 1 : ℕ) : R) * Q0 i₀ nB + 4 * Qp ipp nB := by
  have h2 : u * (u - 1) ≠ 0 → 2 ≤ u := fun h => by
    have h0 := Nat.ne_zero_of_mul_ne_zero_left h
    have h1 := Nat.ne_zero_of_mul_ne_zero_right h
    omega
  rw [mul_row_congr _ Qm nB fun h => h₁ (h2 h), mul_assoc 2, mul_row_congr u Q0 nB h₂]
  simp only [two, four, Nat.cast_ofNat]
  push_cast
  ring

/-- **`left_shell_second_derivative` is the rule of `left_shell_derivative`, −a·[a − e] + 2·[a + e],
applied twice**: first along p, then along q.  No guard is needed on the right: where the code clamps
or defaults a row, the multiplier is zero. -/
theorem leftSecond_rule (a : Nat × Nat × Nat) (p q : Nat) (hpq : p ≤ q) (hq : q < 3) (nB : Nat)
    (Qm Q0 Qp : Blk R) :
    leftSecond (deg a) (qmRows2 (deg a)) Qm Q0 Qp (symIdx p q) (rowOf a) nB
      = ((comp a p * comp (dec a p) q : Nat) : R) * Qm (rowOf (dec (dec a p) q)) nB
        - 2 * ((comp a p : Nat) : R) * Q0 (rowOf (inc (dec a p) q)) nB
        - 2 * ((comp (inc a p) q : Nat) : R) * Q0 (rowOf (dec (inc a p) q)) nB
        + 4 * Qp (rowOf (inc (inc a p) q)) nB := by
  obtain ⟨k, l, m⟩ := a
  simp only [leftSecond, cartList_rowOf]
  interval_cases q <;> interval_cases p
  · -- xx
    refine repeated_rows k Qm Q0 Qp nB _ _ (fun hk => Nat.min_eq_left ?_) (fun _ => rfl)
    have hlt : nIdx l m < ncart (k + l + m - 2) := nIdx_lt_ncart (by omega)
    rw [qmRows2, if_pos (by simp only [deg]; omega)]
    exact Nat.le_sub_one_of_lt hlt
  · -- xy
    exact mixed_rows k l Qm Q0 Qp nB _
      (fun hk hl => (if_pos (Nat.pos_of_ne_zero hk)).trans (if_pos (Nat.pos_of_ne_zero hl)))
      (fun hk => if_pos (Nat.pos_of_ne_zero hk))
      (fun hl => if_pos (Nat.pos_of_ne_zero hl))
  · -- yy
    exact repeated_rows l Qm Q0 Qp nB _ _ (fun hl => if_pos hl)
      (fun hl => congrArg rowOf (inc_dec (k, l, m) 1 hl))
  · -- xz
    exact mixed_rows k m Qm Q0 Qp nB _
      (fun hk hm => (if_pos (Nat.pos_of_ne_zero hk)).trans (if_pos (Nat.pos_of_ne_zero hm)))
      (fun hk => if_pos (Nat.pos_of_ne_zero hk))
      (fun hm => if_pos (Nat.pos_of_ne_zero hm))
  · -- yz
    exact mixed_rows l m Qm Q0 Qp nB _
      (fun hl hm => if_pos (Nat.mul_pos (Nat.pos_of_ne_zero hl) (Nat.pos_of_ne_zero hm)))
      (fun hl => if_pos (Nat.pos_of_ne_zero hl))
      (fun hm => if_pos (Nat.pos_of_ne_zero hm))
  · -- zz
    exact repeated_rows m Qm Q0 Qp nB _ _ (fun hm => if_pos hm)
      (fun hm => congrArg rowOf (inc_dec (k, l, m) 2 hm))

/-! degrees of the four components the rule reads, each under the multiplier that guards it -/

theorem deg_inc_inc (a : ℕ × ℕ × ℕ) (p q : ℕ) : deg (inc (inc a p) q) = deg a + 2 := by
  rw [deg_inc, deg_inc]

theorem deg_inc_dec (a : ℕ × ℕ × ℕ) (p q : ℕ) (h : comp a p ≠ 0) : deg (inc (dec a p) q) = deg a := by
  have hle := comp_le_deg a p
  rw [deg_inc, deg_dec a p h]
  omega

theorem deg_dec_inc (a : ℕ × ℕ × ℕ) (p q : ℕ) (h : comp (inc a p) q ≠ 0) :
    deg (dec (inc a p) q) = deg a := by
  rw [deg_dec _ q h, deg_inc]
  rfl

theorem deg_dec_dec (a : ℕ × ℕ × ℕ) (p q : ℕ) (h : comp a p * comp (dec a p) q ≠ 0) :
    deg (dec (dec a p) q) = deg a - 2 := by
  rw [deg_dec _ q (Nat.ne_zero_of_mul_ne_zero_right h), deg_dec a p (Nat.ne_zero_of_mul_ne_zero_left h)]
  omega

/-- **six second derivatives with respect to one centre** as `left_shell_second_derivative` writes
them; a term is absent exactly when its integer multiplier is zero. -/
theorem leftSecond_spec (a : Nat × Nat × Nat) (p q : Nat) (hpq : p ≤ q) (hq : q < 3) (nB : Nat)
    (Qm Q0 Qp : Blk R) :
    leftSecond (deg a) (qmRows2 (deg a)) Qm Q0 Qp (symIdx p q) (rowOf a) nB
      = if p = q then
          (if comp a p < 2 then 0
            else ((comp a p * (comp a p - 1) : Nat) : R) * Qm (rowOf (dec (dec a p) p)) nB)
          - 2 * ((2 * comp a p + 1 : Nat) : R) * Q0 (rowOf a) nB
          + 4 * Qp (rowOf (inc (inc a p) p)) nB
        else
          (if comp a p = 0 ∨ comp a q = 0 then 0
            else ((comp a p * comp a q : Nat) : R) * Qm (rowOf (dec (dec a p) q)) nB)
          - (if comp a p = 0 then 0 else 2 * ((comp a p : Nat) : R) * Q0 (rowOf (inc (dec a p) q)) nB)
          - (if comp a q = 0 then 0 else 2 * ((comp a q : Nat) : R) * Q0 (rowOf (dec (inc a p) q)) nB)
          + 4 * Qp (rowOf (inc (inc a p) q)) nB := by
  have hp : p < 3 := by omega
  rw [leftSecond_rule a p q hpq hq, comp_dec a hp hq, comp_inc a hp hq]
  by_cases e : p = q
  · -- inc (dec a p) p = a under its multiplier, dec (inc a p) p = a, and 2a + 2(a+1) = 2(2a+1)
    subst e
    have h0 : ((comp a p : ℕ) : R) * Q0 (rowOf (inc (dec a p) p)) nB
        = (comp a p : ℕ) * Q0 (rowOf a) nB :=
      mul_row_congr _ Q0 nB fun h => by rw [inc_dec a p h]
    simp only [if_true, dec_inc, mul_assoc, h0]
    split_ifs with h2
    · have h1 : comp a p * (comp a p - 1) = 0 := by
        interval_cases comp a p <;> rfl
      rw [h1]
      push_cast
      ring
    · push_cast
      ring
  · simp only [e, if_false, Nat.sub_zero, Nat.add_zero]
    by_cases h1 : comp a p = 0 <;> by_cases h2 : comp a q = 0 <;> simp [h1, h2]

/-- rows addressed by the formula are inside the shifted shells -/
theorem leftSecond_rows_in_range (a : Nat × Nat × Nat) (p q : Nat) (hp : p < 3) (hq : q < 3) :
    rowOf (inc (inc a p) q) < ncart (deg a + 2) ∧
    (comp a p ≠ 0 → rowOf (inc (dec a p) q) < ncart (deg a)) ∧
    (comp a p ≠ 0 → comp a q ≠ 0 → (p = q → 2 ≤ comp a p) → rowOf (dec (dec a p) q) < ncart (deg a - 2)) := by
  refine ⟨deg_inc_inc a p q ▸ rowOf_lt _, fun h => deg_inc_dec a p q h ▸ rowOf_lt _,
    fun h1 h2 h3 => deg_dec_dec a p q (Nat.mul_ne_zero h1 ?_) ▸ rowOf_lt _⟩
  rw [comp_dec a hp hq]
  split_ifs with e
  · subst e
    have := h3 rfl
    omega
  · exact h2

/-- `Q_mm.dims` as the routine sees them, computed or zero-filled -/
def mmDim (L : Nat) : Nat := max 1 (L * (L + 1) / 2)

/-- below an s shell a zero block with one row (column) stands in for the lowered shell -/
theorem ncart_pred_le_mmDim (L : Nat) : ncart (L - 1) ≤ mmDim L := by
  unfold mmDim ncart
  rcases L with _ | L
  · decide
  · exact Nat.le_max_right _ _

/-- **the nine mixed second derivatives** ∂²/∂A_p ∂B_q of `mixed_second_derivative` -/
theorem mixedSecond_spec (a b : Nat × Nat × Nat) (p q : Nat) (hp : p < 3) (hq : q < 3)
    (Qmm Qmp Qpm Qpp : Blk R) :
    mixedSecond (deg a) (deg b) (mmDim (deg a)) (mmDim (deg b)) Qmm Qmp Qpm Qpp (3 * p + q) (rowOf a) (rowOf b)
      = (if comp a p = 0 ∨ comp b q = 0 then 0
          else ((comp a p * comp b q : Nat) : R) * Qmm (rowOf (dec a p)) (rowOf (dec b q)))
        - (if comp b q = 0 then 0 else 2 * ((comp b q : Nat) : R) * Qpm (rowOf (inc a p)) (rowOf (dec b q)))
        - (if comp a p = 0 then 0 else 2 * ((comp a p : Nat) : R) * Qmp (rowOf (dec a p)) (rowOf (inc b q)))
        + 4 * Qpp (rowOf (inc a p)) (rowOf (inc b q)) := by
  unfold mixedSecond
  simp only [cartList_rowOf]
  have h3 : (3 * p + q) / 3 = p := by omega
  have h4 : (3 * p + q) % 3 = q := by omega
  rw [h3, h4, idxPlus_eq a p hp, idxPlus_eq b q hq]
  have hA := idxMinus_eq a p hp (ncart_pred_le_mmDim (deg a))
  have hB := idxMinus_eq b q hq (ncart_pred_le_mmDim (deg b))
  by_cases ha : comp a p = 0 <;> by_cases hb : comp b q = 0 <;>
    simp [ha, hb, hA, hB, two, four]

/-- the clamped / defaulted "minus" rows the code reads stay inside `Q_mm` -/
theorem mixed_clamps_in_range (a : Nat × Nat × Nat) (p : Nat) (hp : p < 3) :
    idxMinus a.2.1 a.2.2 (mmDim (deg a)) p < mmDim (deg a) :=
  idxMinus_lt a p (ncart_pred_le_mmDim _)

/-- **the 45 matrices of `compute_shell_pair_second_derivative` with three distinct centres**, block by
block, the position inside a block a variable -/
theorem pairSecond_layout (QAA QBB QAB : Nat → Blk R) (nA nB : Nat) :
    (∀ i < 6, pairSecond true true QAA QBB QAB i nA nB = QAA i nA nB) ∧
    (∀ i < 9, pairSecond true true QAA QBB QAB (6 + i) nA nB = QAB i nA nB) ∧
    (∀ i < 9, pairSecond true true QAA QBB QAB (15 + i) nA nB
      = -(QAA (Gen.jaas.getD i 0) nA nB + QAB i nA nB)) ∧
    (∀ i < 6, pairSecond true true QAA QBB QAB (24 + i) nA nB = QBB i nB nA) ∧
    (∀ i < 9, pairSecond true true QAA QBB QAB (30 + i) nA nB
      = -(QBB (Gen.jaas.getD i 0) nB nA + QAB (Gen.jbbs.getD i 0) nA nB)) ∧
    (∀ p < 3, ∀ q < 3, pairSecond true true QAA QBB QAB (39 + symIdx p q) nA nB
      = QAA (symIdx p q) nA nB + QAB (3 * p + q) nA nB + QAB (3 * q + p) nA nB
        + QBB (symIdx p q) nB nA) := by
  simp only [pairSecond, if_true]
  refine ⟨fun i hi => ?_, fun i hi => ?_, fun i hi => ?_, fun i hi => ?_, fun i hi => ?_,
    fun p hp q hq => ?_⟩
  · rw [if_pos hi]
  · rw [if_neg (by omega), if_pos (by omega), Nat.add_sub_cancel_left]
  · rw [if_neg (by omega), if_neg (by omega), if_pos (by omega), Nat.add_sub_cancel_left,
      Nat.cast_one, neg_one_mul]
  · rw [if_neg (by omega), if_neg (by omega), if_neg (by omega), if_pos (by omega),
      Nat.add_sub_cancel_left]
    rfl
  · rw [if_neg (by omega), if_neg (by omega), if_neg (by omega), if_neg (by omega),
      if_pos (by omega), Nat.add_sub_cancel_left, Nat.cast_one, neg_one_mul]
  · have hs := symIdx_lt hp hq
    rw [if_neg (by omega), if_neg (by omega), if_neg (by omega), if_neg (by omega),
      if_neg (by omega), Nat.add_sub_cancel_left, cc_last_write p hp q hq,
      jaas_spec _ (by omega : max p q < 3) _ (by omega : min p q < 3),
      jbbs_spec _ (by omega : max p q < 3) _ (by omega : min p q < 3), symIdx_comm (max p q),
      Nat.cast_one]
    rcases Nat.le_total p q with h | h
    · rw [Nat.max_eq_right h, Nat.min_eq_left h]
      ring
    · rw [Nat.max_eq_left h, Nat.min_eq_right h, symIdx_comm q p]
      ring

/-- layout with three distinct centres: AA = QAA, AB = QAB, BB = QBBᵀ -/
theorem pairSecond_blocks (QAA QBB QAB : Nat → Blk R) (nA nB : Nat) :
    (∀ i < 6, pairSecond true true QAA QBB QAB i nA nB = QAA i nA nB) ∧
    (∀ i < 9, pairSecond true true QAA QBB QAB (6 + i) nA nB = QAB i nA nB) ∧
    (∀ i < 6, pairSecond true true QAA QBB QAB (24 + i) nA nB = QBB i nB nA) := by
  obtain ⟨hAA, hAB, -, hBB, -, -⟩ := pairSecond_layout QAA QBB QAB nA nB
  exact ⟨hAA, hAB, hBB⟩

/-- **translational sum rules** (three distinct centres), for all p, q:
AC = −(AA + AB), BC = −(BB + BA), CC = AA + AB + BA + BB -/
theorem pairSecond_sum_rules (QAA QBB QAB : Nat → Blk R) (p q : Nat) (hp : p < 3) (hq : q < 3) (nA nB : Nat) :
    let P := fun i => pairSecond true true QAA QBB QAB i nA nB
    P (15 + (3 * p + q)) = -(P (symIdx p q) + P (6 + (3 * p + q))) ∧
    P (30 + (3 * p + q)) = -(P (24 + symIdx p q) + P (6 + (3 * q + p))) ∧
    P (39 + symIdx p q) = P (symIdx p q) + P (6 + (3 * p + q)) + P (6 + (3 * q + p)) + P (24 + symIdx p q) := by
  obtain ⟨hAA, hAB, hAC, hBB, hBC, hCC⟩ := pairSecond_layout QAA QBB QAB nA nB
  have hs := symIdx_lt hp hq
  have hpq : 3 * p + q < 9 := by omega
  have hqp : 3 * q + p < 9 := by omega
  dsimp only
  refine ⟨?_, ?_, ?_⟩
  · rw [hAC _ hpq, hAA _ hs, hAB _ hpq, jaas_spec p hp q hq]
  · rw [hBC _ hpq, hBB _ hs, hAB _ hqp, jaas_spec p hp q hq, jbbs_spec p hp q hq]
  · rw [hCC p hp q hq, hAA _ hs, hAB _ hpq, hAB _ hqp, hBB _ hs]

/-- the CC block is written twice for p ≠ q (once from (p,q), once from (q,p)); both writes store the
same value, so the result does not depend on the loop order -/
theorem cc_write_order_irrelevant (QAA QBB QAB : Nat → Blk R) (p q : Nat) (hp : p < 3) (hq : q < 3) (nA nB : Nat) :
    let P := fun i => pairSecond true true QAA QBB QAB i nA nB
    (-(P (30 + (3 * p + q))) - P (15 + (3 * p + q))) = -(P (30 + (3 * q + p))) - P (15 + (3 * q + p)) := by
  obtain ⟨-, -, hAC, -, hBC, -⟩ := pairSecond_layout QAA QBB QAB nA nB
  have hpq : 3 * p + q < 9 := by omega
  have hqp : 3 * q + p < 9 := by omega
  dsimp only
  rw [hAC _ hpq, hAC _ hqp, hBC _ hpq, hBC _ hqp, jaas_spec p hp q hq, jbbs_spec p hp q hq,
    jaas_spec q hq p hp, jbbs_spec q hq p hp, symIdx_comm q p]
  ring

theorem pairSecond_false_true (QAA QBB QAB : Nat → Blk R) :
    pairSecond false true QAA QBB QAB = pairSecond true false (fun c => tr (QBB c)) QBB QAB := rfl

theorem pairSecond_true_false (Q QBB QAB : Nat → Blk R) (nA nB : Nat) :
    (∀ i < 6, pairSecond true false Q QBB QAB i nA nB = Q i nA nB) ∧
    (∀ i < 9, pairSecond true false Q QBB QAB (6 + i) nA nB = -(Q (Gen.jaas.getD i 0) nA nB)) ∧
    (∀ i < 6, pairSecond true false Q QBB QAB (24 + i) nA nB = Q i nA nB) ∧
    (∀ i, (15 ≤ i ∧ i < 24) ∨ 30 ≤ i → pairSecond true false Q QBB QAB i nA nB = 0) := by
  simp only [pairSecond, if_true, Bool.false_eq_true, if_false, Nat.cast_one, mul_neg_one]
  refine ⟨fun i hi => ?_, fun i hi => ?_, fun i hi => ?_, fun i hi => ?_⟩
  · rw [if_pos hi]
  · rw [if_neg (by omega), if_pos (by omega), Nat.add_sub_cancel_left]
  · rw [if_neg (by omega), if_neg (by omega), if_pos (by omega), Nat.add_sub_cancel_left]
  · rw [if_neg (by omega), if_neg (by omega), if_neg (by omega)]
    rfl

/-- **conventions with a shell on the ECP centre** — what C04's assembly assumes (`LowLevelConvention`):
the AC, BC and CC blocks are zero, and with both shells on the ECP everything is. -/
theorem pairSecond_convention (aOff bOff : Bool) (h : aOff = false ∨ bOff = false)
    (QAA QBB QAB : Nat → Blk R) (nA nB : Nat) :
    (∀ i, (15 ≤ i ∧ i < 24) ∨ (30 ≤ i ∧ i < 45) → pairSecond aOff bOff QAA QBB QAB i nA nB = 0) ∧
    (aOff = false → bOff = false → ∀ i, pairSecond aOff bOff QAA QBB QAB i nA nB = 0) := by
  have hz : ∀ i, pairSecond false false QAA QBB QAB i nA nB = 0 := fun i => rfl
  refine ⟨fun i hi => ?_, ?_⟩
  · have hi' : (15 ≤ i ∧ i < 24) ∨ 30 ≤ i := by omega
    have htf := fun Q : Nat → Blk R => (pairSecond_true_false Q QBB QAB nA nB).2.2.2 i hi'
    cases aOff <;> cases bOff
    · exact hz i
    · rw [pairSecond_false_true]
      exact htf _
    · exact htf _
    · simp at h
  · rintro rfl rfl
    exact hz

/-- with shell B on the ECP centre (A elsewhere): AA = BB = QAA and AB_pq = −QAA_{pq}, i.e. moving B and
the ECP together is minus moving A; symmetrically with shell A on the ECP centre -/
theorem pairSecond_coincident (QAA QBB QAB : Nat → Blk R) (p q : Nat) (hp : p < 3) (hq : q < 3) (nA nB : Nat) :
    (pairSecond true false QAA QBB QAB (symIdx p q) nA nB = QAA (symIdx p q) nA nB ∧
     pairSecond true false QAA QBB QAB (24 + symIdx p q) nA nB = QAA (symIdx p q) nA nB ∧
     pairSecond true false QAA QBB QAB (6 + (3 * p + q)) nA nB = -(QAA (symIdx p q) nA nB)) ∧
    (pairSecond false true QAA QBB QAB (symIdx p q) nA nB = QBB (symIdx p q) nB nA ∧
     pairSecond false true QAA QBB QAB (24 + symIdx p q) nA nB = QBB (symIdx p q) nB nA ∧
     pairSecond false true QAA QBB QAB (6 + (3 * p + q)) nA nB = -(QBB (symIdx p q) nB nA)) := by
  have hs := symIdx_lt hp hq
  have key : ∀ Q : Nat → Blk R,
      pairSecond true false Q QBB QAB (symIdx p q) nA nB = Q (symIdx p q) nA nB ∧
      pairSecond true false Q QBB QAB (24 + symIdx p q) nA nB = Q (symIdx p q) nA nB ∧
      pairSecond true false Q QBB QAB (6 + (3 * p + q)) nA nB = -(Q (symIdx p q) nA nB) := by
    intro Q
    obtain ⟨hAA, hAB, hBB, -⟩ := pairSecond_true_false Q QBB QAB nA nB
    refine ⟨hAA _ hs, hBB _ hs, ?_⟩
    rw [hAB _ (by omega), jaas_spec p hp q hq]
  refine ⟨key QAA, ?_⟩
  rw [pairSecond_false_true]
  exact key _

end

/-! ### non-vacuity: a d-shell component, integers as blocks -/
example : leftSecond (α := Int) 2 (qmRows2 2) (fun i j => 7 + i + j) (fun i j => 10 * i + j) (fun i j => 100 * i + j) (symIdx 0 1) (rowOf (1,1,0)) 2
    = 1 * (7 + (rowOf (0,0,0) : Int) + 2) - 2 * 1 * (10 * (rowOf (0,2,0) : Int) + 2) - 2 * 1 * (10 * (rowOf (2,0,0) : Int) + 2)
      + 4 * (100 * (rowOf (2,2,0) : Int) + 2) := by decide

end Ecpint.C03
