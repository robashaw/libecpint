/- C03 — root of the property's theorems: Props/C03 (the second-derivative assembly, over any commutative ring) and Props/C03b,
   the analysis it rests on: the model routines fed the shifted-shell blocks ARE the partial derivatives of the 3-D primitive;
   translation invariance ⇒ the Hessian sum rules; differentiation under the integral sign for a model integral only. -/
import Ecpint.Props.C03
import Ecpint.Props.C03b
