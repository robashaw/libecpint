/-
C03b — the analysis behind the derivative assembly (C02 / C03 / C04 prove the algebra of the assembly).

  * ∂/∂A_p acts on a Cartesian Gaussian primitive by the lowering/raising rule −a_p·[a − e_p] + 2α·[a + e_p], for
    the derivative orders the code uses, d ≤ 1 (`dfac_succ` in one dimension, `dprim3_succ` in three).  The
    routines of Model/Deriv.lean are the same rule (C02 `leftFirst_spec`, C03 `leftSecond_rule`,
    `mixedSecond_spec`), so fed the blocks of primitives of the shifted shells (raised shells scaled by the
    exponent) they return the partial derivatives.
  * Translational invariance, over any real normed space: a function of the three centres that does not change
    when they move together has ∂_A + ∂_B + ∂_C = 0 (`translation_sum_rule`) and a Hessian that annihilates rigid
    translations (`hess_diag_right`); with the symmetry of mixed partials this gives `hessian_assembly_relations`,
    the relations of C03 `pairSecond_sum_rules` and of the assembly in C04.  Integrals of kernels of x−A, x−B,
    x−C are such functions (`integral_translation_invariant`).
  * Differentiation under the integral sign, first and second order, only for the model integral
    G(A) = ∫ (x−A)^k e^{−α(x−A)²} u(x) dx, u bounded measurable, α > 0 (`hasDerivAt_integral_dprim`).
-/
import Ecpint.Props.C02
import Ecpint.Props.C03
import Mathlib.Analysis.Calculus.FDeriv.Symmetric
import Mathlib.Analysis.Calculus.LineDeriv.Basic
import Mathlib.Analysis.Calculus.ParametricIntegral
import Mathlib.Analysis.SpecialFunctions.Gaussian.GaussianIntegral

namespace Ecpint.C03b
open Ecpint.Deriv Ecpint.C02 Ecpint.C03

/-- the 1-D Cartesian Gaussian primitive -/
noncomputable def prim (k : ℕ) (α x A : ℝ) : ℝ := (x - A) ^ k * Real.exp (-α * (x - A) ^ 2)

/-- its first derivative in A, in the form of `C02.deriv_gaussian_monomial` -/
noncomputable def dprim (k : ℕ) (α x A : ℝ) : ℝ :=
  -(k : ℝ) * (x - A) ^ (k - 1) * Real.exp (-α * (x - A) ^ 2)
    + 2 * α * (x - A) ^ (k + 1) * Real.exp (-α * (x - A) ^ 2)

/-- its second derivative in A -/
noncomputable def ddprim (k : ℕ) (α x A : ℝ) : ℝ :=
  (k : ℝ) * ((k : ℝ) - 1) * (x - A) ^ (k - 2) * Real.exp (-α * (x - A) ^ 2)
    - 2 * α * (2 * (k : ℝ) + 1) * (x - A) ^ k * Real.exp (-α * (x - A) ^ 2)
    + 4 * α ^ 2 * (x - A) ^ (k + 2) * Real.exp (-α * (x - A) ^ 2)

theorem hasDerivAt_prim (k : ℕ) (α x A : ℝ) :
    HasDerivAt (fun A : ℝ => prim k α x A) (dprim k α x A) A :=
  deriv_gaussian_monomial k α x A

/-- the first derivative as the code forms it: −k·(shell k−1) + 2·(α-scaled shell k+1) -/
theorem dprim_code_form (k : ℕ) (α x A : ℝ) :
    dprim k α x A = -((k : ℕ) : ℝ) * prim (k - 1) α x A + 2 * (α * prim (k + 1) α x A) := by
  unfold dprim prim
  ring

theorem ddprim_eq_dprim_comb (k : ℕ) (α x A : ℝ) :
    ddprim k α x A = -(k : ℝ) * dprim (k - 1) α x A + 2 * α * dprim (k + 1) α x A := by
  unfold ddprim dprim
  rcases k with _ | k
  · simp only [Nat.cast_zero, Nat.zero_add, Nat.add_one_sub_one, Nat.cast_one]
    ring
  · have e : k + 1 - 2 = k - 1 := rfl
    simp only [Nat.add_one_sub_one, e, Nat.cast_add, Nat.cast_one]
    ring

/-- **second derivative of the primitive**: differentiate the two terms of `dprim_code_form` -/
theorem hasDerivAt_dprim (k : ℕ) (α x A : ℝ) :
    HasDerivAt (fun A : ℝ => dprim k α x A) (ddprim k α x A) A := by
  rw [show (fun A : ℝ => dprim k α x A)
      = fun A => -((k : ℕ) : ℝ) * prim (k - 1) α x A + 2 * (α * prim (k + 1) α x A)
    from funext (dprim_code_form k α x)]
  refine (((hasDerivAt_prim (k - 1) α x A).const_mul (-(k : ℝ))).fun_add
    (((hasDerivAt_prim (k + 1) α x A).const_mul α).const_mul 2)).congr_deriv ?_
  rw [ddprim_eq_dprim_comb]
  ring

/-- the second derivative written out; for k < 2 the first term vanishes (natural subtraction in
the exponent is harmless because the coefficient k(k−1) is then 0) -/
theorem second_deriv_gaussian_monomial (k : ℕ) (α x A : ℝ) :
    HasDerivAt
      (fun A : ℝ => -(k : ℝ) * (x - A) ^ (k - 1) * Real.exp (-α * (x - A) ^ 2)
        + 2 * α * (x - A) ^ (k + 1) * Real.exp (-α * (x - A) ^ 2))
      ((k : ℝ) * ((k : ℝ) - 1) * (x - A) ^ (k - 2) * Real.exp (-α * (x - A) ^ 2)
        - 2 * α * (2 * (k : ℝ) + 1) * (x - A) ^ k * Real.exp (-α * (x - A) ^ 2)
        + 4 * α ^ 2 * (x - A) ^ (k + 2) * Real.exp (-α * (x - A) ^ 2)) A :=
  hasDerivAt_dprim k α x A

theorem ddprim_of_lt_two (k : ℕ) (hk : k < 2) (α x A : ℝ) :
    ddprim k α x A = - 2 * α * (2 * (k : ℝ) + 1) * (x - A) ^ k * Real.exp (-α * (x - A) ^ 2)
        + 4 * α ^ 2 * (x - A) ^ (k + 2) * Real.exp (-α * (x - A) ^ 2) := by
  unfold ddprim
  interval_cases k <;> simp

theorem deriv_deriv_prim (k : ℕ) (α x A : ℝ) :
    deriv (deriv (fun A : ℝ => prim k α x A)) A = ddprim k α x A := by
  have h : deriv (fun A : ℝ => prim k α x A) = fun A => dprim k α x A :=
    funext fun A => (hasDerivAt_prim k α x A).deriv
  rw [h]
  exact (hasDerivAt_dprim k α x A).deriv

theorem ddprim_coefficients (k : ℕ) (α x A : ℝ) :
    ddprim k α x A
      = ((k : ℝ) * ((k : ℝ) - 1)) * prim (k - 2) α x A
        + (-2 * α * (2 * (k : ℝ) + 1)) * prim k α x A
        + (4 * α ^ 2) * prim (k + 2) α x A := by
  unfold ddprim prim
  ring

/-- **match with the code** (`left_shell_second_derivative`, diagonal components): the integer coefficients
a(a−1), −2(2a+1), 4 are the routine's, the powers α, α² are carried by the blocks (the shifted shells are
built with exponent-scaled contraction coefficients): with `Qm = prim (k−2)`, `Q0 = α·prim k`,
`Qp = α²·prim (k+2)` this is the expression in `Deriv.leftSecond`. -/
theorem ddprim_code_form (k : ℕ) (α x A : ℝ) :
    ddprim k α x A
      = ((k * (k - 1) : ℕ) : ℝ) * prim (k - 2) α x A
        - 2 * ((2 * k + 1 : ℕ) : ℝ) * (α * prim k α x A)
        + 4 * (α ^ 2 * prim (k + 2) α x A) := by
  rw [ddprim_coefficients]
  rcases k with _ | k
  · push_cast
    ring
  · push_cast [Nat.add_one_sub_one]
    ring

/-! ## the 3-D primitive and the match with the model routines -/

/-- 0th / 1st / 2nd A-derivative of the 1-D primitive -/
noncomputable def dfac (d k : ℕ) (α x A : ℝ) : ℝ :=
  match d with
  | 0 => prim k α x A
  | 1 => dprim k α x A
  | _ => ddprim k α x A

theorem hasDerivAt_dfac (d : ℕ) (hd : d ≤ 1) (k : ℕ) (α x A : ℝ) :
    HasDerivAt (fun A : ℝ => dfac d k α x A) (dfac (d + 1) k α x A) A := by
  interval_cases d
  · exact hasDerivAt_prim k α x A
  · exact hasDerivAt_dprim k α x A

/-- the 3-D Cartesian Gaussian primitive x^k y^l z^m e^{−α r²} about the centre A, differentiated
`d i` times with respect to the i-th coordinate of A (`d = 0`: the primitive itself) -/
noncomputable def dprim3 (d : Fin 3 → ℕ) (a : ℕ × ℕ × ℕ) (α : ℝ) (r A : Fin 3 → ℝ) : ℝ :=
  dfac (d 0) a.1 α (r 0) (A 0) * dfac (d 1) a.2.1 α (r 1) (A 1) * dfac (d 2) a.2.2 α (r 2) (A 2)

noncomputable def prim3 (a : ℕ × ℕ × ℕ) (α : ℝ) (r A : Fin 3 → ℝ) : ℝ := dprim3 0 a α r A

theorem prim3_eq (a : ℕ × ℕ × ℕ) (α : ℝ) (r A : Fin 3 → ℝ) :
    prim3 a α r A = ((r 0 - A 0) ^ a.1 * (r 1 - A 1) ^ a.2.1 * (r 2 - A 2) ^ a.2.2)
      * Real.exp (-α * ((r 0 - A 0) ^ 2 + (r 1 - A 1) ^ 2 + (r 2 - A 2) ^ 2)) := by
  simp only [prim3, dprim3, dfac, prim, Pi.zero_apply]
  rw [mul_add, mul_add, Real.exp_add, Real.exp_add]
  ring

theorem hasDerivAt_dprim3 (d : Fin 3 → ℕ) (q : Fin 3) (hd : d q ≤ 1) (a : ℕ × ℕ × ℕ) (α : ℝ)
    (r A : Fin 3 → ℝ) :
    HasDerivAt (fun t : ℝ => dprim3 d a α r (Function.update A q t))
      (dprim3 (d + Pi.single q 1) a α r A) (A q) := by
  fin_cases q
  all_goals
    simp +decide only [dprim3, Pi.add_apply, Pi.single_apply, if_true, if_false, add_zero,
      Function.update_apply]
  · exact ((hasDerivAt_dfac _ hd _ α _ _).mul_const _).mul_const _
  · exact ((hasDerivAt_dfac _ hd _ α _ _).const_mul _).mul_const _
  · exact (hasDerivAt_dfac _ hd _ α _ _).const_mul _

theorem hasDerivAt_prim3 (q : Fin 3) (a : ℕ × ℕ × ℕ) (α : ℝ) (r A : Fin 3 → ℝ) :
    HasDerivAt (fun t : ℝ => prim3 a α r (Function.update A q t))
      (dprim3 (Pi.single q 1) a α r A) (A q) := by
  have h := hasDerivAt_dprim3 0 q (by simp) a α r A
  simpa [prim3] using h

/-- differentiation commutes with the lowering/raising rule: the rule that gives `dprim` from `prim`
gives `ddprim` from `dprim` -/
theorem dfac_succ (d : ℕ) (hd : d ≤ 1) (k : ℕ) (α x A : ℝ) :
    dfac (d + 1) k α x A = -(k : ℝ) * dfac d (k - 1) α x A + 2 * (α * dfac d (k + 1) α x A) := by
  interval_cases d
  · exact dprim_code_form k α x A
  · simp only [dfac]
    rw [ddprim_eq_dprim_comb]
    ring

/-- **∂/∂A_p acts on a (differentiated) primitive by the lowering/raising rule**
`−a_p·[a − e_p] + 2α·[a + e_p]` -/
theorem dprim3_succ (d : Fin 3 → ℕ) (p : Fin 3) (hd : d p ≤ 1) (a : ℕ × ℕ × ℕ) (α : ℝ)
    (r A : Fin 3 → ℝ) :
    dprim3 (d + Pi.single p 1) a α r A
      = -((comp a p : ℕ) : ℝ) * dprim3 d (dec a p) α r A + 2 * (α * dprim3 d (inc a p) α r A) := by
  -- the only split on the coordinate: the factor of `p` follows `dfac_succ`, the other two stay
  fin_cases p
  all_goals
    simp +decide only [dprim3, comp, inc, dec, Pi.add_apply, Pi.single_apply, if_true, if_false, add_zero]
  · rw [dfac_succ (d 0) hd]
    ring
  · rw [dfac_succ (d 1) hd]
    ring
  · rw [dfac_succ (d 2) hd]
    ring

theorem dprim3_single (q : Fin 3) (a : ℕ × ℕ × ℕ) (α : ℝ) (r A : Fin 3 → ℝ) :
    dprim3 (Pi.single q 1) a α r A
      = -((comp a q : ℕ) : ℝ) * prim3 (dec a q) α r A + 2 * (α * prim3 (inc a q) α r A) := by
  simpa [prim3] using dprim3_succ 0 q (by simp) a α r A

/-- a block holding `f b` in row `rowOf b` for the components b of the shell of degree L (every column) -/
noncomputable def shellBlk (L : ℕ) (f : ℕ × ℕ × ℕ → ℝ) : Blk ℝ := fun i _ =>
  match (cartList L)[i]? with
  | some b => f b
  | none => 0

theorem shellBlk_rowOf (L : ℕ) (f : ℕ × ℕ × ℕ → ℝ) (b : ℕ × ℕ × ℕ) (hb : deg b = L) (nB : ℕ) :
    shellBlk L f (rowOf b) nB = f b := by
  subst hb
  simp [shellBlk, cartList_rowOf]

theorem mul_shellBlk (n L : ℕ) (f : ℕ × ℕ × ℕ → ℝ) (b : ℕ × ℕ × ℕ) (nB : ℕ) (h : n ≠ 0 → deg b = L) :
    (n : ℝ) * shellBlk L f (rowOf b) nB = n * f b := by
  rcases Nat.eq_zero_or_pos n with rfl | hn
  · rw [Nat.cast_zero, zero_mul, zero_mul]
  · rw [shellBlk_rowOf _ _ _ (h (Nat.ne_of_gt hn))]

/-- **the model routine `left_shell_second_derivative` computes the second derivatives of the primitive**:
feed `leftSecond` the blocks of the (L−2)-shell, the α-scaled L-shell and the α²-scaled (L+2)-shell of
primitives; its (p,q) component at the row of `a` is ∂²/∂A_p∂A_q of the primitive `a`. -/
theorem leftSecond_is_second_derivative (a : ℕ × ℕ × ℕ) (p q : Fin 3) (hpq : p ≤ q) (α : ℝ)
    (r A : Fin 3 → ℝ) (nB : ℕ) :
    leftSecond (deg a) (qmRows2 (deg a))
        (shellBlk (deg a - 2) fun b => prim3 b α r A)
        (shellBlk (deg a) fun b => α * prim3 b α r A)
        (shellBlk (deg a + 2) fun b => α ^ 2 * prim3 b α r A)
        (symIdx p q) (rowOf a) nB
      = dprim3 (Pi.single q 1 + Pi.single p 1) a α r A := by
  have h1 : (Pi.single q 1 : Fin 3 → ℕ) p ≤ 1 := by
    rw [Pi.single_apply]
    split_ifs <;> decide
  -- both sides are the lowering/raising rule applied along p, then along q
  rw [leftSecond_rule _ p q hpq q.isLt, dprim3_succ _ p h1, dprim3_single, dprim3_single,
    mul_shellBlk _ _ _ _ nB (deg_dec_dec a p q), mul_assoc 2, mul_assoc 2,
    mul_shellBlk _ _ _ _ nB (deg_inc_dec a p q), mul_shellBlk _ _ _ _ nB (deg_dec_inc a p q),
    shellBlk_rowOf _ _ _ (deg_inc_inc a p q)]
  push_cast
  ring

/-- **and `left_shell_derivative` computes the first derivatives** (C02 `leftFirst_spec`) -/
theorem leftFirst_is_first_derivative (a : ℕ × ℕ × ℕ) (q : Fin 3) (α : ℝ) (r A : Fin 3 → ℝ) (nB : ℕ) :
    leftFirst (deg a) (qmRows (deg a))
        (shellBlk (deg a - 1) fun b => prim3 b α r A)
        (shellBlk (deg a + 1) fun b => α * prim3 b α r A)
        q (rowOf a) nB
      = dprim3 (Pi.single q 1) a α r A := by
  rw [leftFirst_spec _ _ q.isLt, dprim3_single, shellBlk_rowOf _ _ _ (deg_inc a q)]
  by_cases h : comp a q = 0
  · simp [h]
  · rw [if_neg h, shellBlk_rowOf _ _ _ (deg_dec a q h)]

/-- a two-index block holding `f a b` at (row of a, row of b) for the components of the shells LA, LB -/
noncomputable def pairBlk (LA LB : ℕ) (f : ℕ × ℕ × ℕ → ℕ × ℕ × ℕ → ℝ) : Blk ℝ := fun i j =>
  match (cartList LA)[i]?, (cartList LB)[j]? with
  | some a, some b => f a b
  | _, _ => 0

theorem pairBlk_rowOf (LA LB : ℕ) (f : ℕ × ℕ × ℕ → ℕ × ℕ × ℕ → ℝ) (a b : ℕ × ℕ × ℕ)
    (ha : deg a = LA) (hb : deg b = LB) : pairBlk LA LB f (rowOf a) (rowOf b) = f a b := by
  subst ha hb
  simp [pairBlk, cartList_rowOf]

/-- ∂/∂A_p then ∂/∂B_q of a product of a primitive on A (exponent α) and one on B (exponent β) -/
theorem hasDerivAt_pair (a b : ℕ × ℕ × ℕ) (p q : Fin 3) (α β : ℝ) (r A B : Fin 3 → ℝ) :
    HasDerivAt (fun t : ℝ => prim3 a α r (Function.update A p t) * prim3 b β r B)
      (dprim3 (Pi.single p 1) a α r A * prim3 b β r B) (A p) ∧
    HasDerivAt (fun t : ℝ => dprim3 (Pi.single p 1) a α r A * prim3 b β r (Function.update B q t))
      (dprim3 (Pi.single p 1) a α r A * dprim3 (Pi.single q 1) b β r B) (B q) :=
  ⟨(hasDerivAt_prim3 p a α r A).mul_const _, (hasDerivAt_prim3 q b β r B).const_mul _⟩

/-- **`mixed_second_derivative` computes ∂²/∂A_p∂B_q of the pair of primitives**: feed `mixedSecond` the
four blocks (l_A ∓ 1, l_B ∓ 1) of products of primitives, a raised shell carrying its exponent
(α for A, β for B); its component 3p+q at (row of a, row of b) is the mixed derivative. -/
theorem mixedSecond_is_mixed_derivative (a b : ℕ × ℕ × ℕ) (p q : Fin 3) (α β : ℝ)
    (r A B : Fin 3 → ℝ) :
    mixedSecond (deg a) (deg b) (mmDim (deg a)) (mmDim (deg b))
        (pairBlk (deg a - 1) (deg b - 1) fun a' b' => prim3 a' α r A * prim3 b' β r B)
        (pairBlk (deg a - 1) (deg b + 1) fun a' b' => β * (prim3 a' α r A * prim3 b' β r B))
        (pairBlk (deg a + 1) (deg b - 1) fun a' b' => α * (prim3 a' α r A * prim3 b' β r B))
        (pairBlk (deg a + 1) (deg b + 1) fun a' b' => α * β * (prim3 a' α r A * prim3 b' β r B))
        (3 * p + q) (rowOf a) (rowOf b)
      = dprim3 (Pi.single p 1) a α r A * dprim3 (Pi.single q 1) b β r B := by
  rw [mixedSecond_spec _ _ p q p.isLt q.isLt, dprim3_single, dprim3_single,
    pairBlk_rowOf _ _ _ _ _ (deg_inc a p) (deg_inc b q)]
  -- a lowered component is read at its own row exactly where its multiplier survives
  by_cases ha : comp a p = 0 <;> by_cases hb : comp b q = 0
  · simp [ha, hb]
    ring
  · rw [pairBlk_rowOf _ _ _ _ _ (deg_inc a p) (deg_dec b q hb)]
    simp [ha, hb]
    ring
  · rw [pairBlk_rowOf _ _ _ _ _ (deg_dec a p ha) (deg_inc b q)]
    simp [ha, hb]
    ring
  · rw [pairBlk_rowOf _ _ _ _ _ (deg_inc a p) (deg_dec b q hb),
      pairBlk_rowOf _ _ _ _ _ (deg_dec a p ha) (deg_inc b q),
      pairBlk_rowOf _ _ _ _ _ (deg_dec a p ha) (deg_dec b q hb)]
    simp [ha, hb]
    ring

section Translation
variable {E G : Type*} [NormedAddCommGroup E] [NormedSpace ℝ E]
  [NormedAddCommGroup G] [NormedSpace ℝ G]

/-- embedding of a displacement of centre A into the configuration space (A, B, C) ∈ E × E × E -/
def iA : E →L[ℝ] E × E × E := ContinuousLinearMap.inl ℝ E (E × E)

def iB : E →L[ℝ] E × E × E :=
  (ContinuousLinearMap.inr ℝ E (E × E)).comp (ContinuousLinearMap.inl ℝ E E)
/-- embedding of a displacement of centre C (the ECP centre) -/
def iC : E →L[ℝ] E × E × E :=
  (ContinuousLinearMap.inr ℝ E (E × E)).comp (ContinuousLinearMap.inr ℝ E E)
/-- rigid translation of all three centres by the same vector -/
def diag : E →L[ℝ] E × E × E :=
  (ContinuousLinearMap.id ℝ E).prod ((ContinuousLinearMap.id ℝ E).prod (ContinuousLinearMap.id ℝ E))

@[simp] theorem iA_apply (v : E) : (iA v : E × E × E) = (v, 0, 0) := rfl
@[simp] theorem iB_apply (v : E) : (iB v : E × E × E) = (0, v, 0) := rfl
@[simp] theorem iC_apply (v : E) : (iC v : E × E × E) = (0, 0, v) := rfl
@[simp] theorem diag_apply (v : E) : (diag v : E × E × E) = (v, v, v) := rfl

theorem diag_eq (v : E) : (diag v : E × E × E) = iA v + iB v + iC v := by simp

/-- the three partial derivatives ARE the restrictions of the Fréchet derivative to the three summands -/
theorem hasFDerivAt_partial {F : E × E × E → G} {F' : E × E × E →L[ℝ] G} {a b c : E}
    (hF : HasFDerivAt F F' (a, b, c)) :
    HasFDerivAt (fun x => F (x, b, c)) (F'.comp iA) a ∧
    HasFDerivAt (fun y => F (a, y, c)) (F'.comp iB) b ∧
    HasFDerivAt (fun z => F (a, b, z)) (F'.comp iC) c :=
  ⟨hF.comp a (hasFDerivAt_prodMk_left a (b, c)),
    hF.comp b ((hasFDerivAt_prodMk_right a (b, c)).comp b (hasFDerivAt_prodMk_left b c)),
    hF.comp c ((hasFDerivAt_prodMk_right a (b, c)).comp c (hasFDerivAt_prodMk_right b c))⟩

/-- **first-order sum rule**: F is constant along the line through p in the direction of a rigid translation
of the three centres, so its derivative in that direction vanishes. -/
theorem fderiv_diag_eq_zero {F : E × E × E → G} {F' : E × E × E →L[ℝ] G} {p : E × E × E}
    (hF : HasFDerivAt F F' p) (hinv : ∀ t : E, F (p + diag t) = F p) (v : E) :
    F' (diag v) = 0 := by
  have hl : HasDerivAt (fun s : ℝ => F (p + s • diag v)) (F' (diag v)) 0 := hF.hasLineDerivAt (diag v)
  have hc : (fun s : ℝ => F (p + s • diag v)) = fun _ => F p := funext fun s => by
    rw [← map_smul]
    exact hinv _
  rw [hc] at hl
  exact hl.unique (hasDerivAt_const 0 (F p))

theorem map_iC {H : Type*} [NormedAddCommGroup H] [NormedSpace ℝ H] (L : E × E × E →L[ℝ] H) {v : E}
    (h : L (diag v) = 0) : L (iC v) = -(L (iA v) + L (iB v)) := by
  rw [diag_eq, map_add, map_add] at h
  exact eq_neg_of_add_eq_zero_right h

/-- **∂_A F + ∂_B F + ∂_C F = 0** (all components at once: an identity of linear maps on E, the value
space `G` arbitrary) -/
theorem translation_sum_rule {F : E × E × E → G} {F' : E × E × E →L[ℝ] G} {a b c : E}
    (hF : HasFDerivAt F F' (a, b, c)) (hinv : ∀ t : E, F (a + t, b + t, c + t) = F (a, b, c)) :
    F'.comp iA + F'.comp iB + F'.comp iC = 0 := by
  ext v
  have h := fderiv_diag_eq_zero hF hinv v
  rwa [diag_eq, map_add, map_add] at h

/-- `∂_C = −(∂_A + ∂_B)` — how the code obtains the ECP-centre gradient -/
theorem translation_dC {F : E × E × E → G} {F' : E × E × E →L[ℝ] G} {a b c : E}
    (hF : HasFDerivAt F F' (a, b, c)) (hinv : ∀ t : E, F (a + t, b + t, c + t) = F (a, b, c)) :
    F'.comp iC = -(F'.comp iA + F'.comp iB) :=
  eq_neg_of_add_eq_zero_right (translation_sum_rule hF hinv)

/-- one Cartesian direction at a time: F : ℝ × ℝ × ℝ → ℝ, ordinary partial derivatives -/
theorem translation_sum_rule_scalar {F : ℝ × ℝ × ℝ → ℝ} {a b c : ℝ}
    (hF : DifferentiableAt ℝ F (a, b, c)) (hinv : ∀ t : ℝ, F (a + t, b + t, c + t) = F (a, b, c)) :
    deriv (fun x => F (x, b, c)) a + deriv (fun y => F (a, y, c)) b + deriv (fun z => F (a, b, z)) c = 0 := by
  obtain ⟨hA, hB, hC⟩ := hasFDerivAt_partial hF.hasFDerivAt
  rw [hA.hasDerivAt.deriv, hB.hasDerivAt.deriv, hC.hasDerivAt.deriv]
  exact DFunLike.congr_fun (translation_sum_rule hF.hasFDerivAt hinv) 1

noncomputable def hess (F : E × E × E → G) (p : E × E × E) : (E × E × E) →L[ℝ] (E × E × E) →L[ℝ] G :=
  fderiv ℝ (fderiv ℝ F) p

/-- first-order sum rule at every point, in `fderiv` form (no differentiability hypothesis needed:
`fderiv` is 0 where F is not differentiable) -/
theorem fderiv_apply_diag {F : E × E × E → G}
    (hinv : ∀ (q : E × E × E) (t : E), F (q + diag t) = F q) (q : E × E × E) (v : E) :
    fderiv ℝ F q (diag v) = 0 := by
  by_cases hd : DifferentiableAt ℝ F q
  · exact fderiv_diag_eq_zero hd.hasFDerivAt (hinv q) v
  · rw [fderiv_zero_of_not_differentiableAt hd]
    rfl

theorem hasFDerivAt_fderiv_apply {F : E × E × E → G} {p : E × E × E}
    (h2 : DifferentiableAt ℝ (fderiv ℝ F) p) (w : E × E × E) :
    HasFDerivAt (fun q => fderiv ℝ F q w) ((hess F p).flip w) p :=
  (ContinuousLinearMap.apply ℝ G w).hasFDerivAt.comp p h2.hasFDerivAt

/-- the Hessian annihilates rigid translations in its second slot: `q ↦ DF(q)(diag v)` vanishes
identically, so its derivative at p does -/
theorem hess_diag_right {F : E × E × E → G}
    (hinv : ∀ (q : E × E × E) (t : E), F (q + diag t) = F q) {p : E × E × E}
    (h2 : DifferentiableAt ℝ (fderiv ℝ F) p) (w : E × E × E) (v : E) :
    hess F p w (diag v) = 0 := by
  have happ := hasFDerivAt_fderiv_apply h2 (diag v : E × E × E)
  rw [funext fun q => fderiv_apply_diag hinv q v] at happ
  exact DFunLike.congr_fun (happ.unique (hasFDerivAt_const (0 : G) p)) w

/-- the Hessian block ∂_X ∂_Y F (X, Y ∈ {A, B, C} given by their embeddings) as a bilinear map on E:
`hessBlock F p iX iY u v = D²F(p)(iX u, iY v)` — the matrix of all 3×3 coordinate components when E = ℝ³ -/
noncomputable def hessBlock (F : E × E × E → G) (p : E × E × E) (iX iY : E →L[ℝ] E × E × E) :
    E →L[ℝ] E →L[ℝ] G :=
  (hess F p).bilinearComp iX iY

@[simp] theorem hessBlock_apply (F : E × E × E → G) (p : E × E × E) (iX iY : E →L[ℝ] E × E × E) (u v : E) :
    hessBlock F p iX iY u v = hess F p (iX u) (iY v) := rfl

/-- a Hessian block as an iterated directional derivative: first "centre Y moves by v", then "centre X
moves by u" -/
theorem hessBlock_eq_iterated {F : E × E × E → G} {p : E × E × E}
    (h2 : DifferentiableAt ℝ (fderiv ℝ F) p) (iX iY : E →L[ℝ] E × E × E) (u v : E) :
    hessBlock F p iX iY u v = fderiv ℝ (fun q => fderiv ℝ F q (iY v)) p (iX u) := by
  rw [(hasFDerivAt_fderiv_apply h2 (iY v)).fderiv]
  rfl

/-- **the relations used by the assembly** (C03 `pairSecond_sum_rules`, C04), for a C² translation-invariant
F: AC = −(AA + AB), BC = −(BB + BA), CC = AA + AB + BA + BB, with H_BA written through the stored block
H_AB (H_BA(u,v) = H_AB(v,u)), and AA, BB, CC are symmetric (so storing 6 of their 9 components is enough). -/
theorem hessian_assembly_relations {F : E × E × E → G}
    (hinv : ∀ (q : E × E × E) (t : E), F (q + diag t) = F q) (hF : ContDiff ℝ 2 F)
    (p : E × E × E) (u v : E) :
    hessBlock F p iA iC u v = -(hessBlock F p iA iA u v + hessBlock F p iA iB u v) ∧
    hessBlock F p iB iC u v = -(hessBlock F p iB iB u v + hessBlock F p iA iB v u) ∧
    hessBlock F p iC iC u v
      = hessBlock F p iA iA u v + hessBlock F p iA iB u v + hessBlock F p iA iB v u
        + hessBlock F p iB iB u v ∧
    hessBlock F p iA iA u v = hessBlock F p iA iA v u ∧
    hessBlock F p iB iB u v = hessBlock F p iB iB v u ∧
    hessBlock F p iC iC u v = hessBlock F p iC iC v u ∧
    hessBlock F p iB iA u v = hessBlock F p iA iB v u := by
  have h2 : DifferentiableAt ℝ (fderiv ℝ F) p :=
    (hF.contDiffAt.fderiv_right (m := 1) one_add_one_eq_two.le).differentiableAt one_ne_zero
  have R : ∀ (w : E × E × E) (x : E),
      hess F p w (iC x) = -(hess F p w (iA x) + hess F p w (iB x)) := fun w x =>
    map_iC _ (hess_diag_right hinv h2 w x)
  -- mixed partials commute, which carries `R` to the first slot
  have sym : ∀ x y : E × E × E, hess F p x y = hess F p y x :=
    (hF.contDiffAt.isSymmSndFDerivAt (by simp)).eq
  have L : ∀ (x : E) (w : E × E × E),
      hess F p (iC x) w = -(hess F p (iA x) w + hess F p (iB x) w) := fun x w => by
    rw [sym (iC x) w, R, sym w (iA x), sym w (iB x)]
  simp only [hessBlock_apply]
  refine ⟨R _ v, ?_, ?_, sym _ _, sym _ _, sym _ _, sym _ _⟩
  · rw [R, sym (iB u) (iA v), add_comm]
  · rw [R, L, L, sym (iB u) (iA v)]
    abel

/-! ### where the invariance comes from, and non-vacuity -/

omit [NormedAddCommGroup G] [NormedSpace ℝ G] in
/-- any function of the relative positions A − C, B − C is invariant under rigid translations -/
theorem invariant_of_relative (f : E × E → G) (q : E × E × E) (t : E) :
    (fun q : E × E × E => f (q.1 - q.2.2, q.2.1 - q.2.2)) (q + diag t)
      = (fun q : E × E × E => f (q.1 - q.2.2, q.2.1 - q.2.2)) q := by
  simp

/-- **the ECP integral is translation invariant**: any integral over all space (translation-invariant
measure μ) of a kernel of the positions relative to the three centres, e.g.
K = φ_a(x−A) · U(x−C) · φ_b(x−B), is unchanged when the centres move together (substitute x ↦ x + t). -/
theorem integral_translation_invariant [MeasurableSpace E] [BorelSpace E]
    (μ : MeasureTheory.Measure E) [μ.IsAddRightInvariant] (K : E → E → E → G)
    (q : E × E × E) (t : E) :
    (fun q : E × E × E => ∫ x, K (x - q.1) (x - q.2.1) (x - q.2.2) ∂μ) (q + diag t)
      = (fun q : E × E × E => ∫ x, K (x - q.1) (x - q.2.1) (x - q.2.2) ∂μ) q := by
  obtain ⟨a, b, c⟩ := q
  simp only [Prod.mk_add_mk, diag_apply, sub_add_eq_sub_sub_swap]
  exact MeasureTheory.integral_sub_right_eq_self (fun y => K (y - a) (y - b) (y - c)) t

/-- non-vacuity: a concrete C² translation-invariant function satisfies the hypotheses of
`hessian_assembly_relations` -/
example (p : ℝ × ℝ × ℝ) (u v : ℝ) :
    let F : ℝ × ℝ × ℝ → ℝ := fun q => (q.1 - q.2.2) ^ 2 * (q.2.1 - q.2.2)
    hessBlock F p iA iC u v = -(hessBlock F p iA iA u v + hessBlock F p iA iB u v) := by
  intro F
  have hinv : ∀ (q : ℝ × ℝ × ℝ) (t : ℝ), F (q + diag t) = F q := fun q t => by simp [F]
  have hF : ContDiff ℝ 2 F := by fun_prop
  exact (hessian_assembly_relations hinv hF p u v).1

end Translation

section UnderIntegral
open MeasureTheory Filter

theorem integrable_pow_mul_gauss (n : ℕ) {β : ℝ} (hβ : 0 < β) :
    Integrable fun y : ℝ => y ^ n * Real.exp (-β * y ^ 2) := by
  have h := integrable_rpow_mul_exp_neg_mul_sq hβ (s := (n : ℝ))
    (neg_one_lt_zero.trans_le (Nat.cast_nonneg n))
  simpa [Real.rpow_natCast] using h

/-- the dominating envelope is integrable: expand the power by the binomial theorem -/
theorem integrable_envelope (n : ℕ) {β : ℝ} (hβ : 0 < β) :
    Integrable fun y : ℝ => (|y| + 1) ^ n * Real.exp (-β * y ^ 2) := by
  simp only [add_pow, one_pow, mul_one, Finset.sum_mul]
  refine integrable_finsetSum _ fun i _ => ?_
  refine ((integrable_pow_mul_gauss i hβ).norm.mul_const (n.choose i : ℝ)).congr
    (Eventually.of_forall fun y => ?_)
  simp only [norm_mul, norm_pow, Real.norm_eq_abs, Real.abs_exp]
  ring

/-- uniform bound for A within distance 1 of A₀: |x−A| ≤ |x−A₀| + 1 and (x−A₀)² ≤ 2(x−A)² + 2 -/
theorem abs_prim_le_envelope (n : ℕ) {α : ℝ} (hα : 0 < α) {A A₀ : ℝ} (hA : |A - A₀| ≤ 1) (x : ℝ) :
    |prim n α x A| ≤ Real.exp α * ((|x - A₀| + 1) ^ n * Real.exp (-(α / 2) * (x - A₀) ^ 2)) := by
  have h1 : |x - A| ≤ |x - A₀| + 1 := by
    rw [show x - A = (x - A₀) - (A - A₀) by ring]
    exact (abs_sub _ _).trans (add_le_add_right hA _)
  have hq : (x - A₀) ^ 2 ≤ 2 * (x - A) ^ 2 + 2 := by
    rw [show x - A₀ = (x - A) + (A - A₀) by ring]
    linarith only [add_sq_le (a := x - A) (b := A - A₀), (sq_le_one_iff_abs_le_one _).2 hA]
  have h3 : Real.exp (-α * (x - A) ^ 2) ≤ Real.exp α * Real.exp (-(α / 2) * (x - A₀) ^ 2) := by
    rw [← Real.exp_add]
    exact Real.exp_le_exp.2 (by linarith only [mul_le_mul_of_nonneg_left hq hα.le])
  rw [prim, abs_mul, Real.abs_exp, abs_pow, mul_left_comm]
  exact mul_le_mul (pow_le_pow_left₀ (abs_nonneg _) h1 n) h3 (Real.exp_pos _).le (by positivity)

/-- **differentiation under the integral sign**, first order, for G(A) = ∫ (x−A)^k e^{−α(x−A)²} u(x) dx with
u bounded measurable, α > 0 -/
theorem hasDerivAt_integral_prim (k : ℕ) {α : ℝ} (hα : 0 < α) {u : ℝ → ℝ}
    (hu : AEStronglyMeasurable u volume) {M : ℝ} (hM : ∀ x, |u x| ≤ M) (A₀ : ℝ) :
    Integrable (fun x => prim k α x A₀ * u x) ∧
    Integrable (fun x => dprim k α x A₀ * u x) ∧
    HasDerivAt (fun A => ∫ x, prim k α x A * u x) (∫ x, dprim k α x A₀ * u x) A₀ := by
  set env : ℕ → ℝ → ℝ := fun n x =>
    Real.exp α * ((|x - A₀| + 1) ^ n * Real.exp (-(α / 2) * (x - A₀) ^ 2))
  have env_int : ∀ n, Integrable (env n) := fun n =>
    ((integrable_envelope n (half_pos hα)).comp_sub_right A₀).const_mul (Real.exp α)
  set bound : ℝ → ℝ := fun x => ((k : ℝ) * env (k - 1) x + 2 * α * env (k + 1) x) * M
  have bound_int : Integrable bound :=
    (((env_int (k - 1)).const_mul (k : ℝ)).add ((env_int (k + 1)).const_mul (2 * α))).mul_const M
  have hprim_int : Integrable (fun x => prim k α x A₀ * u x) :=
    ((integrable_pow_mul_gauss k hα).comp_sub_right A₀).mul_bdd hu
      (Eventually.of_forall fun x => by simpa using hM x)
  have hmeas : ∀ A, AEStronglyMeasurable (fun x => prim k α x A * u x) volume := fun A =>
    (Continuous.aestronglyMeasurable (by unfold prim; fun_prop)).mul hu
  have hmeas' : AEStronglyMeasurable (fun x => dprim k α x A₀ * u x) volume :=
    (Continuous.aestronglyMeasurable (by unfold dprim; fun_prop)).mul hu
  have hb : ∀ᵐ x ∂(volume : Measure ℝ), ∀ A ∈ Metric.ball A₀ 1, ‖dprim k α x A * u x‖ ≤ bound x := by
    refine Eventually.of_forall fun x A hA => ?_
    have hA' : |A - A₀| ≤ 1 := by
      rw [← Real.dist_eq]
      exact (Metric.mem_ball.1 hA).le
    -- `dprim` is a combination of two primitives, each below its envelope
    have hd : |dprim k α x A| ≤ (k : ℝ) * env (k - 1) x + 2 * α * env (k + 1) x := by
      rw [dprim_code_form, ← mul_assoc]
      refine (abs_add_le _ _).trans (add_le_add ?_ ?_)
      · rw [abs_mul, abs_neg, Nat.abs_cast]
        exact mul_le_mul_of_nonneg_left (abs_prim_le_envelope (k - 1) hα hA' x) (Nat.cast_nonneg k)
      · rw [abs_mul, abs_of_pos (by positivity : (0 : ℝ) < 2 * α)]
        exact mul_le_mul_of_nonneg_left (abs_prim_le_envelope (k + 1) hα hA' x) (by positivity)
    rw [Real.norm_eq_abs, abs_mul]
    exact mul_le_mul hd (hM x) (abs_nonneg _) ((abs_nonneg _).trans hd)
  have hdiff : ∀ᵐ x ∂(volume : Measure ℝ), ∀ A ∈ Metric.ball A₀ 1,
      HasDerivAt (fun A => prim k α x A * u x) (dprim k α x A * u x) A :=
    Eventually.of_forall fun x A _ => (hasDerivAt_prim k α x A).mul_const (u x)
  have key := hasDerivAt_integral_of_dominated_loc_of_deriv_le
    (F := fun A x => prim k α x A * u x) (F' := fun A x => dprim k α x A * u x)
    (Metric.ball_mem_nhds A₀ one_pos) (Eventually.of_forall hmeas) hprim_int hmeas' hb bound_int hdiff
  exact ⟨hprim_int, key.1, key.2⟩

theorem integral_dfac_succ (d : ℕ) (hd : d ≤ 1) (k : ℕ) (α A : ℝ) (u : ℝ → ℝ)
    (hm : Integrable fun x => dfac d (k - 1) α x A * u x)
    (hp : Integrable fun x => dfac d (k + 1) α x A * u x) :
    Integrable (fun x => dfac (d + 1) k α x A * u x) ∧
    ∫ x, dfac (d + 1) k α x A * u x
      = -(k : ℝ) * (∫ x, dfac d (k - 1) α x A * u x) + 2 * α * (∫ x, dfac d (k + 1) α x A * u x) := by
  have e : (fun x => dfac (d + 1) k α x A * u x)
      = fun x => -(k : ℝ) * (dfac d (k - 1) α x A * u x) + 2 * α * (dfac d (k + 1) α x A * u x) :=
    funext fun x => by
      rw [dfac_succ d hd]
      ring
  rw [e]
  refine ⟨(hm.const_mul _).add (hp.const_mul _), ?_⟩
  rw [integral_add (hm.const_mul _) (hp.const_mul _), integral_const_mul, integral_const_mul]

/-- **second derivative under the integral sign**: G''(A) = ∫ ∂²/∂A²[(x−A)^k e^{−α(x−A)²}] u(x) dx -/
theorem hasDerivAt_integral_dprim (k : ℕ) {α : ℝ} (hα : 0 < α) {u : ℝ → ℝ}
    (hu : AEStronglyMeasurable u volume) {M : ℝ} (hM : ∀ x, |u x| ≤ M) (A₀ : ℝ) :
    Integrable (fun x => ddprim k α x A₀ * u x) ∧
    HasDerivAt (fun A => ∫ x, dprim k α x A * u x) (∫ x, ddprim k α x A₀ * u x) A₀ := by
  have hm := fun A => hasDerivAt_integral_prim (k - 1) hα hu hM A
  have hp := fun A => hasDerivAt_integral_prim (k + 1) hα hu hM A
  -- G' is a combination of the integrals of the primitives k ∓ 1, and ∫ ddprim the same combination of
  -- their derivatives
  have h1 := fun A => (integral_dfac_succ 0 zero_le_one k α A u (hm A).1 (hp A).1).2
  obtain ⟨hint, h2⟩ := integral_dfac_succ 1 le_rfl k α A₀ u (hm A₀).2.1 (hp A₀).2.1
  refine ⟨hint, ?_⟩
  rw [show (fun A => ∫ x, dprim k α x A * u x) = _ from funext h1]
  exact (((hm A₀).2.2.const_mul _).fun_add ((hp A₀).2.2.const_mul _)).congr_deriv h2.symm

end UnderIntegral

end Ecpint.C03b
