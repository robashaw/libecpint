/-
C05 — integrator results depend only on the current inputs, not on the call history.

Model: Ecpint/Model/History.lean; the container preparation modes come from the translator (Ecpint/Gen/ApiInit.lean,
regenerated from api.cpp on every run).  Every statement is read off one refinement (`run_refines`).
-/
import Ecpint.Model.History
import Ecpint.Gen.ApiInit

namespace Ecpint.C05
open Ecpint.History

/-- the configuration of the working tree (Gen/ApiInit.lean) -/
def cfg (natoms : Nat) : Cfg :=
  { intsInit := Gen.apiIntsInit, d1Init := Gen.apiD1Init, d2Init := Gen.apiD2Init, natoms := natoms }

theorem accum_replicate (c : Coords) (n k i : Nat) (h : i + k ≤ n) :
    accum c n i (List.replicate k []) = List.replicate k [c] := by
  induction k generalizing i with
  | zero => rfl
  | succ k ih =>
    rw [List.replicate_succ, accum, if_pos (by omega), ih (i + 1) (by omega)]
    rfl

theorem step_refines (n : Nat) (s : Spec) (op : Op) :
    step (cfg n) (abs (cfg n) s) op = abs (cfg n) (Spec.step s op) := by
  cases op <;>
    simp [step, abs, Spec.step, cfg, Gen.apiIntsInit, Gen.apiD1Init, Gen.apiD2Init, prep, absList,
      accum_replicate]

/-- **Refinement**: whatever the history, the containers are exactly those of the abstract
machine that only remembers at which coordinates each quantity was last computed. -/
theorem run_refines (n : Nat) (ops : List Op) (s : Spec) :
    run (cfg n) (abs (cfg n) s) ops = abs (cfg n) (Spec.run s ops) :=
  List.foldl_hom (abs (cfg n)) (step_refines n)

theorem run_init (n : Nat) (c0 : Coords) (ops : List Op) :
    run (cfg n) (init c0) ops = abs (cfg n) (Spec.run (Spec.init c0) ops) :=
  run_refines n ops (Spec.init c0)

theorem run_append (cfg : Cfg) (s : State) (a b : List Op) :
    run cfg s (a ++ b) = run cfg (run cfg s a) b :=
  List.foldl_append

/-- coordinates held after a history do not depend on the containers -/
theorem cur_run (n : Nat) (ops : List Op) (s : Spec) :
    (run (cfg n) (abs (cfg n) s) ops).cur = (Spec.run s ops).cur := by
  rw [run_refines]
  rfl

/-- **C05, integrals**: after any history, `compute_integrals` leaves what a freshly
constructed integrator at the current coordinates computes. -/
theorem history_independent_ints (n : Nat) (c0 : Coords) (ops : List Op) :
    (run (cfg n) (init c0) (ops ++ [.compI])).ints
      = (run (cfg n) (init (run (cfg n) (init c0) ops).cur) [.compI]).ints := by
  rw [run_append, run_init, run_refines, run_init]
  rfl

/-- **C05, first derivatives** -/
theorem history_independent_d1 (n : Nat) (c0 : Coords) (ops : List Op) :
    (run (cfg n) (init c0) (ops ++ [.compD1])).d1
      = (run (cfg n) (init (run (cfg n) (init c0) ops).cur) [.compD1]).d1 := by
  rw [run_append, run_init, run_refines, run_init]
  rfl

/-- **C05, second derivatives** -/
theorem history_independent_d2 (n : Nat) (c0 : Coords) (ops : List Op) :
    (run (cfg n) (init c0) (ops ++ [.compD2])).d2
      = (run (cfg n) (init (run (cfg n) (init c0) ops).cur) [.compD2]).d2 := by
  rw [run_append, run_init, run_refines, run_init]
  rfl

theorem absList_length (n : Nat) (o : Option Coords) : (absList n o).length = 0 ∨ (absList n o).length = n := by
  cases o
  · exact .inl rfl
  · exact .inr List.length_replicate

/-- the derivative lists keep their documented lengths (or are still empty) -/
theorem lengths (n : Nat) (c0 : Coords) (ops : List Op) :
    let s := run (cfg n) (init c0) ops
    (s.d1.length = 0 ∨ s.d1.length = 3 * n) ∧
    (s.d2.length = 0 ∨ s.d2.length = (3 * n * (3 * n + 1)) / 2) := by
  simp only [run_init]
  exact ⟨absList_length _ _, absList_length _ _⟩

/-- what a fresh integrator returns: every slot holds exactly the fresh result -/
theorem fresh_d1 (n : Nat) (c : Coords) :
    (run (cfg n) (init c) [.compD1]).d1 = List.replicate (3 * n) [c] := by
  rw [run_init]
  rfl

theorem fresh_d2 (n : Nat) (c : Coords) :
    (run (cfg n) (init c) [.compD2]).d2 = List.replicate ((3 * n * (3 * n + 1)) / 2) [c] := by
  rw [run_init]
  rfl

/-- recomputing without changing anything returns identical results -/
theorem recompute_idempotent (n : Nat) (c0 : Coords) (ops : List Op) (op : Op) :
    run (cfg n) (init c0) (ops ++ [op, op]) = run (cfg n) (init c0) (ops ++ [op]) := by
  rw [run_append, run_append, run_init, run_refines, run_refines]
  congr 1
  cases op <;> simp [Spec.run, Spec.step]

/-- reads between computes return the last computed version, not the current coordinates:
the documented workflow (update, then recompute) is therefore *required* — non-vacuity
witness that the model distinguishes the two. -/
example : (run (cfg 2) (init ⟨0, 0⟩) [.compI, .updShells 1]).ints = [⟨0, 0⟩] := by decide +kernel

/-- non-vacuity: a concrete length-6 history on a 2-atom system -/
example :
    (run (cfg 2) (init ⟨0, 0⟩) [.compD1, .updShells 1, .compD1, .updEcps 2, .compD2, .compD1]).d1
      = List.replicate 6 [⟨1, 2⟩] := by decide +kernel

end Ecpint.C05
