/- C06 — screening is term dropping.  Model: Model/ShellPair.lean, Model/RadialGen.lean (bit for bit with the code,
   with the hook `verif::no_screening` corresponding to the switches radialScreen / pairScreen / prescreen = false). -/
import Ecpint.Model.ShellPair
import Ecpint.Gen.Constants
import Mathlib.Data.Real.Basic
import Mathlib.Tactic.Linarith
namespace Ecpint.C06
open Ecpint.ShellPair Ecpint.Contraction

variable {α : Type} [Flt α]

/-- `RadialGen.primitive` with the generated closed-form case kept abstract: `rc` is the closed form, where the exponents
are large enough and a case exists for (l1, l2, k) -/
theorem primitive_shape (prim : Quad.Grid α) (T : Bessel.Table α) (small tol minExp rootPi : α)
    (nbase : Nat) (un : Int) (ua a b A B d1 d2 : α) (N l1 l2 : Nat) (erfv : α) :
    ∃ rc : Option α,
      RadialGen.primitive prim T small tol minExp rootPi nbase un ua a b A B d1 d2 N l1 l2 erfv =
        match rc with
        | some r => (r, .closed, 0)
        | none =>
          if tol < RadialGen.estimateType2 T (((N : Int) + un + 2).toNat) l1 l2 ua a b A B erfv then
            ((RadialGen.integrateSmall prim T small tol (((N : Int) + un + 2).toNat) l1 l2 ua a b A B).1, .quad,
             (RadialGen.integrateSmall prim T small tol (((N : Int) + un + 2).toNat) l1 l2 ua a b A B).2.2.1)
          else (0, .screened, 0) := by
  unfold RadialGen.primitive
  dsimp only
  split
  · exact ⟨_, rfl⟩
  · exact ⟨none, rfl⟩

/-- per-primitive radial screen: the primitive routine either takes a closed form (never screened), or runs the
quadrature when the estimate exceeds the tolerance, or contributes exactly 0 — nothing else -/
theorem primitive_paths (prim : Quad.Grid α) (T : Bessel.Table α) (small tol minExp rootPi : α)
    (nbase : Nat) (un : Int) (ua a b A B d1 d2 : α) (N l1 l2 : Nat) (erfv : α) :
    let r := RadialGen.primitive prim T small tol minExp rootPi nbase un ua a b A B d1 d2 N l1 l2 erfv
    let k : Nat := ((N : Int) + un + 2).toNat
    (r.2.1 = .screened → r.1 = 0 ∧ ¬ tol < RadialGen.estimateType2 T k l1 l2 ua a b A B erfv) ∧
    (r.2.1 = .quad → tol < RadialGen.estimateType2 T k l1 l2 ua a b A B erfv ∧
        r.1 = (RadialGen.integrateSmall prim T small tol k l1 l2 ua a b A B).1) := by
  intro r k
  obtain ⟨rc, hrc⟩ := primitive_shape prim T small tol minExp rootPi nbase un ua a b A B d1 d2 N l1 l2 erfv
  simp only [r, k, hrc]
  cases rc with
  | some v => simp
  | none =>
    by_cases ht : tol < RadialGen.estimateType2 T (((N : Int) + un + 2).toNat) l1 l2 ua a b A B erfv
    · simp [ht]
    · simp [ht]

def AgreeOffPair (s s' : Switches) : Prop :=
  s.tailCut = s'.tailCut ∧ s.closedForms = s'.closedForms ∧ s.radialScreen = s'.radialScreen ∧
  s.prescreen = s'.prescreen ∧ s.finest = s'.finest

theorem radIntegrate_sw (E : Engine α) (s s' : Switches) (maxL : Nat) (g : Quad.Grid α) (vals : Nat → Nat → α)
    (start stop offset skip : Nat) :
    radIntegrate E s maxL g vals start stop offset skip = radIntegrate E s' maxL g vals start stop offset skip := rfl

theorem radType2_sw (E : Engine α) (s s' : Switches) (pwf : Nat → α → α) (maxPow : Nat) (lam l1end0 l2end0 N : Nat)
    (U : Ecp α) (sA sB : Shell α) (d : PairData α) (par : Params α) :
    radType2 E s pwf maxPow lam l1end0 l2end0 N U sA sB d par = radType2 E s' pwf maxPow lam l1end0 l2end0 N U sA sB d par := rfl

/-! Which switches a routine reads shows by unfolding alone, since a field of `{ s with pairScreen := b }` other than
`pairScreen` reduces to the field of `s`: the local part reads `prescreen` only, the semi-local part everything but
`pairScreen`; `pairScreen` itself is read by `computeFromData` and nowhere below it. -/

theorem type1_reads (E : Engine α) (s : Switches) : type1 E s = type1 E { prescreen := s.prescreen } := rfl

theorem type2_reads (E : Engine α) (s : Switches) (b : Bool) : type2 E s = type2 E { s with pairScreen := b } := rfl

theorem type1_sw (E : Engine α) (s s' : Switches) (hp : s.prescreen = s'.prescreen) (pwf : Nat → α → α) (maxPow : Nat)
    (U : Ecp α) (sA sB : Shell α) (d : PairData α) (CA CB : Nat → Nat → Nat → Nat → α) (par : Params α) :
    type1 E s pwf maxPow U sA sB d CA CB par = type1 E s' pwf maxPow U sA sB d CA CB par := by
  rw [type1_reads E s, type1_reads E s', hp]

theorem type2_sw (E : Engine α) (s s' : Switches) (h : AgreeOffPair s s') (pwf : Nat → α → α) (maxPow : Nat)
    (classes : Nat → Nat → Nat → Option (Gen.QClass × Option (Array (UTerm α))))
    (lam : Nat) (U : Ecp α) (sA sB : Shell α) (d : PairData α) (CA CB : Nat → Nat → Nat → Nat → α) (par : Params α) :
    type2 E s pwf maxPow classes lam U sA sB d CA CB par = type2 E s' pwf maxPow classes lam U sA sB d CA CB par := by
  obtain ⟨h1, h2, h3, h4, h5⟩ := h
  have hs : s' = { s with pairScreen := s'.pairScreen } := by
    cases s
    cases s'
    simp_all
  rw [hs, type2_reads E s s'.pairScreen]

/-- the per-l estimates compute_shell_pair compares with its tolerance -/
def pairEstimates (E : Engine α) (pwf : Nat → α → α) (euler sinh1 : α) (d : PairData α) (U : Ecp α) (sA sB : Shell α) : Array α :=
  estimateType2 E pwf U sA sB d euler sinh1

/-- "the estimate of l is not at or below the tolerance" (`!(screens[l] <= tolerance)`: a NaN estimate does not screen) -/
def passesL (E : Engine α) (pwf : Nat → α → α) (euler sinh1 : α) (d : PairData α) (U : Ecp α) (sA sB : Shell α) (l : Nat) : Bool :=
  !decide ((pairEstimates E pwf euler sinh1 d U sA sB)[l]! ≤ E.pairTol)

/-- adding the semi-local contribution of one l to the block (the body of the l loop of compute_shell_pair) -/
def addL (E : Engine α) (sw : Switches) (pwf : Nat → α → α) (pw : α → Nat → α) (maxPow : Nat)
    (classes : Nat → Nat → Nat → Option (Gen.QClass × Option (Array (UTerm α))))
    (d : PairData α) (U : Ecp α) (sA sB : Shell α) (v : Array α) (l : Nat) : Array α :=
  let par := buildParameters sA sB d
  let CA := cAt (makeCTab E pw d.LA d.A) d.LA
  let CB := cAt (makeCTab E pw d.LB d.B) d.LB
  let t2 := type2 E sw pwf maxPow classes l U sA sB d CA CB par
  (List.range (2 * l + 1)).foldl (fun v mi =>
    (Array.range (ncart d.LA * ncart d.LB)).map fun i => v[i]! + (t2[i]!)[mi]!) v

/-- the local part (or zeros when the ECP has none / it is left out) -/
def localPart (E : Engine α) (sw : Switches) (pwf : Nat → α → α) (pw : α → Nat → α) (maxPow : Nat)
    (d : PairData α) (U : Ecp α) (sA sB : Shell α) (incl : Bool) : Array α :=
  let par := buildParameters sA sB d
  let CA := cAt (makeCTab E pw d.LA d.A) d.LA
  let CB := cAt (makeCTab E pw d.LB d.B) d.LB
  if !noType1 U && incl then type1 E sw pwf maxPow U sA sB d CA CB par
  else Array.replicate (ncart d.LA * ncart d.LB) 0

theorem addL_reads (E : Engine α) (sw : Switches) (b : Bool) : addL E { sw with pairScreen := b } = addL E sw := by
  unfold addL
  rw [← type2_reads E sw b]

theorem localPart_reads (E : Engine α) (sw : Switches) (b : Bool) :
    localPart E { sw with pairScreen := b } = localPart E sw := rfl

/-- `compute_shell_pair` below the centre differences, for every switch setting: the local part, then the semi-local
contribution of every l that is not screened, added in order -/
theorem computeFromData_eq (E : Engine α) (sw : Switches) (pwf : Nat → α → α) (pw : α → Nat → α) (maxPow : Nat) (euler sinh1 : α)
    (classes : Nat → Nat → Nat → Option (Gen.QClass × Option (Array (UTerm α))))
    (d : PairData α) (U : Ecp α) (sA sB : Shell α) :
    computeFromData E sw pwf pw maxPow euler sinh1 classes d U sA sB
      = (ncart d.LA, ncart d.LB,
          ((List.range U.L).filter fun l => !sw.pairScreen || passesL E pwf euler sinh1 d U sA sB l).foldl
            (addL E sw pwf pw maxPow classes d U sA sB)
            (localPart E sw pwf pw maxPow d U sA sB (!sw.pairScreen || passesL E pwf euler sinh1 d U sA sB U.L))) := by
  rw [List.foldl_filter]
  rfl

/-- shell-pair screen: when no per-l estimate is at or below the tolerance (NaN estimates count as not below), switching
the pair screen off changes nothing -/
theorem pairScreen_inactive (E : Engine α) (sw : Switches) (pwf : Nat → α → α) (pw : α → Nat → α) (maxPow : Nat) (euler sinh1 : α)
    (classes : Nat → Nat → Nat → Option (Gen.QClass × Option (Array (UTerm α))))
    (d : PairData α) (U : Ecp α) (sA sB : Shell α)
    (hall : ∀ l : Nat, ¬ (estimateType2 E pwf U sA sB d euler sinh1)[l]! ≤ E.pairTol) :
    computeFromData E { sw with pairScreen := true } pwf pw maxPow euler sinh1 classes d U sA sB
      = computeFromData E { sw with pairScreen := false } pwf pw maxPow euler sinh1 classes d U sA sB := by
  have hp : ∀ l, passesL E pwf euler sinh1 d U sA sB l = true := by
    intro l
    simp only [passesL, pairEstimates, hall l, decide_false, Bool.not_false]
  simp only [computeFromData_eq, addL_reads, localPart_reads, hp, Bool.or_true]

/-- the radial screen switched off is the only difference between the screened and the unscreened primitive: whenever the
estimate exceeds the tolerance both give the same value -/
theorem primitiveSw_radialScreen_inactive (E : Engine α) (nbase : Nat) (un : Int) (ua a b A B d1 d2 : α) (N l1 l2 : Nat) (erfv : α)
    (h : E.tol < RadialGen.estimateType2 E.bessel (((N : Int) + un + 2).toNat) l1 l2 ua a b A B erfv) :
    radialTriples.primitiveSw E { radialScreen := false } nbase un ua a b A B d1 d2 N l1 l2 erfv
      = radialTriples.primitiveSw E { } nbase un ua a b A B d1 d2 N l1 l2 erfv := by
  obtain ⟨rc, hrc⟩ := primitive_shape E.prim E.bessel E.smallZ E.tol E.minExp E.rootPi nbase un ua a b A B d1 d2 N l1 l2 erfv
  simp only [radialTriples.primitiveSw, hrc, h]
  cases rc <;> simp

/-- budget lemma: leaving out the terms that fail `keep`, each of magnitude at most ε, changes a sum by at most
(number of dropped terms) · ε -/
theorem dropped_terms_budget (ts : List ℝ) (keep : ℝ → Bool) (ε : ℝ)
    (h : ∀ t ∈ ts, keep t = false → |t| ≤ ε) :
    |ts.sum - (ts.filter keep).sum| ≤ ((ts.filter fun t => !keep t).length : ℝ) * ε := by
  induction ts with
  | nil => simp
  | cons t ts ih =>
    have ih' := ih (fun u hu => h u (List.mem_cons_of_mem _ hu))
    cases hk : keep t with
    | true =>
      simp only [List.filter_cons, hk, List.sum_cons, Bool.not_true, if_true]
      simpa using ih'
    | false =>
      have ht := h t List.mem_cons_self hk
      simp only [List.filter_cons, hk, List.sum_cons, Bool.not_false, if_true, List.length_cons]
      push_cast
      rw [add_sub_assoc]
      have := abs_add_le t (ts.sum - (List.filter keep ts).sum)
      linarith

/-- the three thresholds of the working tree (regenerated constants) leave room in the property's allowance of 1e-9 per
unit of coefficient product: at most MAX_L+1 shell-pair terms with a slack factor 100, the radial threshold with a slack
of 1e5, the distance threshold with a slack of 100 -/
theorem thresholds_within_budget :
    ((Gen.ECPINT_TOLERANCE_num : ℚ) / Gen.ECPINT_TOLERANCE_den) * (Gen.LIBECPINT_MAX_L + 1) * 100 ≤ 1 / 1000000000 ∧
    ((Gen.RADIAL_THRESH_DEFAULT_num : ℚ) / Gen.RADIAL_THRESH_DEFAULT_den) * 100000 ≤ 1 / 1000000000 ∧
    ((Gen.TWO_C_TOLERANCE_num : ℚ) / Gen.TWO_C_TOLERANCE_den) * 100 ≤ 1 / 1000000000 := by
  decide +kernel

end Ecpint.C06
