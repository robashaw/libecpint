/- C06 — root of the property's theorems:
   C06   the three paths of a primitive; which switches each routine of the call tree reads; the block as a fold over the
         unscreened l; inactive-screen theorems; budget lemma; threshold budget
   C06b  the shell-pair screen is exactly "restrict the computation to the l whose estimate exceeds the tolerance" -/
import Ecpint.Props.C06
import Ecpint.Props.C06b
