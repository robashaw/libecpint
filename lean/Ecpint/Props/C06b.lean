/- C06 (part b) — the shell-pair screen is exactly "restrict the computation to the l whose estimate exceeds the
   tolerance".  Both theorems are read off `computeFromData_eq` (Props/C06.lean), the equation of `computeFromData`
   (Model/ShellPair.lean) for every switch setting. -/
import Ecpint.Props.C06
import Mathlib.Data.List.Basic
namespace Ecpint.C06
open Ecpint.ShellPair Ecpint.Contraction

variable {α : Type} [Flt α]

/-- the unscreened block: local part plus every l < L -/
theorem unscreened_block (E : Engine α) (sw : Switches) (pwf : Nat → α → α) (pw : α → Nat → α) (maxPow : Nat) (euler sinh1 : α)
    (classes : Nat → Nat → Nat → Option (Gen.QClass × Option (Array (UTerm α))))
    (d : PairData α) (U : Ecp α) (sA sB : Shell α) :
    (computeFromData E { sw with pairScreen := false } pwf pw maxPow euler sinh1 classes d U sA sB).2.2
      = (List.range U.L).foldl (addL E sw pwf pw maxPow classes d U sA sB) (localPart E sw pwf pw maxPow d U sA sB true) := by
  simp only [computeFromData_eq, addL_reads, localPart_reads, Bool.not_false, Bool.true_or, List.filter_true]

/-- C06, shell-pair level: the screened block is the SAME computation restricted to the l (and the local part) whose
estimate exceeds the tolerance — screening only ever leaves whole additive contributions out -/
theorem pairScreen_is_term_dropping (E : Engine α) (sw : Switches) (pwf : Nat → α → α) (pw : α → Nat → α) (maxPow : Nat) (euler sinh1 : α)
    (classes : Nat → Nat → Nat → Option (Gen.QClass × Option (Array (UTerm α))))
    (d : PairData α) (U : Ecp α) (sA sB : Shell α) :
    (computeFromData E { sw with pairScreen := true } pwf pw maxPow euler sinh1 classes d U sA sB).2.2
      = ((List.range U.L).filter (passesL E pwf euler sinh1 d U sA sB)).foldl (addL E sw pwf pw maxPow classes d U sA sB)
          (localPart E sw pwf pw maxPow d U sA sB (passesL E pwf euler sinh1 d U sA sB U.L)) := by
  simp only [computeFromData_eq, addL_reads, localPart_reads, Bool.not_true, Bool.false_or]

end Ecpint.C06
