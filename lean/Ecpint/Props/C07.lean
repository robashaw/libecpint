/- C07 — exchange of the two shells: the generic contractions are symmetric over any commutative semiring.
   Definitions: Ecpint/Model/Contraction.lean (the same functions the pipeline model runs at Float). -/
import Ecpint.Props.C01a
import Ecpint.Lemmas.Contraction
import Ecpint.Lemmas.FoldSum
import Ecpint.Lemmas.MixedRadix
import Mathlib.Algebra.BigOperators.Group.List.Basic
import Mathlib.Algebra.Ring.Defs
import Mathlib.Algebra.Ring.Nat
namespace Ecpint.C07
open Ecpint.Contraction Ecpint.ContractionLemmas

variable {K : Type} [CommSemiring K]

def radT (r : Nat → Nat → Nat → K) : Nat → Nat → Nat → K := fun N l1 l2 => r N l2 l1

/-- explicit-sum form of one entry of the rolled-up contraction (no accumulator, no arrays) -/
def rolledUpSum (omega : Nat → Nat → Nat → Nat → Nat → Nat → Nat → K) (keep : K → Bool) (prefac : K) (lam : Nat)
    (radials : Nat → Nat → Nat → K) (CAna CBnb : Nat → Nat → Nat → K) (SA SB : Array (Array K))
    (ca cb : Nat × Nat × Nat) (mi : Nat) : K :=
  ((subIdx ca).map fun a => ((subIdx cb).map fun b =>
    let C := CAna a.1 a.2.1 a.2.2 * CBnb b.1 b.2.1 b.2.2
    if keep C then
      ((List.range (lam + tsum a + 1)).map fun lam1 =>
        ((parityRange (lam + tsum b) (lam1 + (tsum a + tsum b))).map fun lam2 =>
          prefac * C * radials (tsum a + tsum b) lam1 lam2 * wContr omega lam SA a lam1 mi * wContr omega lam SB b lam2 mi).sum).sum
    else 0).sum).sum

theorem rolledUpBlock_eq (omega : Nat → Nat → Nat → Nat → Nat → Nat → Nat → K) (keep : K → Bool) (prefac : K) (lam : Nat)
    (radials : Nat → Nat → Nat → K) (CAna CBnb : Nat → Nat → Nat → K) (SA SB : Array (Array K))
    (ca cb : Nat × Nat × Nat) :
    rolledUpBlock omega keep prefac lam radials CAna CBnb SA SB ca cb
      = (Array.range (2 * lam + 1)).map (rolledUpSum omega keep prefac lam radials CAna CBnb SA SB ca cb) := by
  unfold rolledUpBlock rolledUpSum
  -- every loop adds into all entries of `acc`: innermost first, each fold becomes the entrywise sum of what its steps add
  simp only [foldl_mapIdx_add, ite_mapIdx_add, replicate_mapIdx_add]
  refine range_map_congr fun mi hmi => sum_map_congr fun a _ => sum_map_congr fun b _ => ?_
  split
  · refine sum_map_congr fun lam1 h1 => sum_map_congr fun lam2 h2 => ?_
    -- `w1`, `w2` are read inside the tables
    rw [get2_table (List.mem_range.mp h1) hmi, get2_table (Nat.lt_succ_of_le ((C01.parityRange_mem _ _ _).mp h2).1) hmi]
  · rfl

theorem rolledUpSum_swap (omega : Nat → Nat → Nat → Nat → Nat → Nat → Nat → K) (keep : K → Bool) (prefac : K) (lam : Nat)
    (radials : Nat → Nat → Nat → K) (CAna CBnb : Nat → Nat → Nat → K) (SA SB : Array (Array K))
    (ca cb : Nat × Nat × Nat) (mi : Nat) :
    rolledUpSum omega keep prefac lam (radT radials) CBnb CAna SB SA cb ca mi
      = rolledUpSum omega keep prefac lam radials CAna CBnb SA SB ca cb mi := by
  unfold rolledUpSum
  dsimp only
  rw [sum_map_comm]
  refine sum_map_congr (fun a _ => sum_map_congr (fun b _ => ?_))
  rw [mul_comm (CBnb b.1 b.2.1 b.2.2) (CAna a.1 a.2.1 a.2.2), Nat.add_comm (tsum b) (tsum a)]
  split
  · rw [parity_sum_swap]
    refine sum_map_congr (fun l1 _ => sum_map_congr (fun l2 _ => ?_))
    simp only [radT]
    rw [mul_right_comm]
  · rfl

/-- the accumulator/array form the code runs equals the explicit sum, entry by entry -/
theorem rolledUpBlock_getD (omega : Nat → Nat → Nat → Nat → Nat → Nat → Nat → K) (keep : K → Bool) (prefac : K) (lam : Nat)
    (radials : Nat → Nat → Nat → K) (CAna CBnb : Nat → Nat → Nat → K) (SA SB : Array (Array K))
    (ca cb : Nat × Nat × Nat) (mi : Nat) (hmi : mi < 2 * lam + 1) :
    (rolledUpBlock omega keep prefac lam radials CAna CBnb SA SB ca cb).getD mi 0
      = rolledUpSum omega keep prefac lam radials CAna CBnb SA SB ca cb mi := by
  rw [rolledUpBlock_eq, getD_range_map _ _ _ hmi]

theorem rolledUpBlock_size (omega : Nat → Nat → Nat → Nat → Nat → Nat → Nat → K) (keep : K → Bool) (prefac : K) (lam : Nat)
    (radials : Nat → Nat → Nat → K) (CAna CBnb : Nat → Nat → Nat → K) (SA SB : Array (Array K))
    (ca cb : Nat × Nat × Nat) :
    (rolledUpBlock omega keep prefac lam radials CAna CBnb SA SB ca cb).size = 2 * lam + 1 := by
  rw [rolledUpBlock_eq, Array.size_map, Array.size_range]

/-- C07, semi-local part, general position: calling the contraction with the two shells' data exchanged and the
radial table transposed gives the same numbers (the caller then stores them transposed) -/
theorem rolledUpBlock_swap (omega : Nat → Nat → Nat → Nat → Nat → Nat → Nat → K) (keep : K → Bool) (prefac : K) (lam : Nat)
    (radials : Nat → Nat → Nat → K) (CAna CBnb : Nat → Nat → Nat → K) (SA SB : Array (Array K))
    (ca cb : Nat × Nat × Nat) :
    rolledUpBlock omega keep prefac lam (radT radials) CBnb CAna SB SA cb ca
      = rolledUpBlock omega keep prefac lam radials CAna CBnb SA SB ca cb := by
  rw [rolledUpBlock_eq, rolledUpBlock_eq]
  exact range_map_congr fun mi _ => rolledUpSum_swap omega keep prefac lam radials CAna CBnb SA SB ca cb mi

/-- the contribution of one binomial shift (k, l, m) with coefficient `C` to the type-1 element -/
def type1Term (W : Nat → Nat → Nat → Nat → Nat → K) (keep : K → Bool) (radials : Nat → Nat → Nat → K)
    (k l m : Nat) (C : K) : K :=
  if keep C then
    ((parityRange (k + l + m) (k + l + m)).map fun lam =>
      ((parityRange lam (k + l + m + m)).map fun mu =>
        C * W k l m lam (if l % 2 = 1 then lam - mu else lam + mu)
          * radials (k + l + m) lam (if l % 2 = 1 then lam - mu else lam + mu)).sum).sum
  else 0

/-- explicit-sum form of the type-1 element -/
def type1Sum (W : Nat → Nat → Nat → Nat → Nat → K) (keep : K → Bool) (radials : Nat → Nat → Nat → K)
    (CAna CBnb : Nat → Nat → Nat → K) (ca cb : Nat × Nat × Nat) : K :=
  ((List.range (ca.1 + 1)).map fun k1 => ((List.range (cb.1 + 1)).map fun k2 =>
    ((List.range (ca.2.1 + 1)).map fun l1 => ((List.range (cb.2.1 + 1)).map fun l2 =>
      ((List.range (ca.2.2 + 1)).map fun m1 => ((List.range (cb.2.2 + 1)).map fun m2 =>
        type1Term W keep radials (k1 + k2) (l1 + l2) (m1 + m2) (CAna k1 l1 m1 * CBnb k2 l2 m2)).sum).sum).sum).sum).sum).sum

theorem type1Entry_eq_sum (W : Nat → Nat → Nat → Nat → Nat → K) (keep : K → Bool) (radials : Nat → Nat → Nat → K)
    (CAna CBnb : Nat → Nat → Nat → K) (ca cb : Nat × Nat × Nat) :
    type1Entry W keep radials CAna CBnb ca cb = type1Sum W keep radials CAna CBnb ca cb := by
  unfold type1Entry type1Sum type1Term
  -- every loop adds into `v`: innermost first, each fold becomes the sum of what its steps add
  simp only [FoldSum.foldl_add_eq_sum, FoldSum.foldl_ite_add_eq_sum, zero_add]

theorem type1Sum_swap (W : Nat → Nat → Nat → Nat → Nat → K) (keep : K → Bool) (radials : Nat → Nat → Nat → K)
    (CAna CBnb : Nat → Nat → Nat → K) (ca cb : Nat × Nat × Nat) :
    type1Sum W keep radials CBnb CAna cb ca = type1Sum W keep radials CAna CBnb ca cb := by
  unfold type1Sum
  rw [sum_map_comm]
  refine sum_map_congr (fun k1 _ => sum_map_congr (fun k2 _ => ?_))
  rw [sum_map_comm]
  refine sum_map_congr (fun l1 _ => sum_map_congr (fun l2 _ => ?_))
  rw [sum_map_comm]
  refine sum_map_congr (fun m1 _ => sum_map_congr (fun m2 _ => ?_))
  rw [Nat.add_comm k2 k1, Nat.add_comm l2 l1, Nat.add_comm m2 m1, mul_comm]

/-- C07, local part: the type-1 element is symmetric under exchange of the two shells' data -/
theorem type1Entry_swap (W : Nat → Nat → Nat → Nat → Nat → K) (keep : K → Bool) (radials : Nat → Nat → Nat → K)
    (CAna CBnb : Nat → Nat → Nat → K) (ca cb : Nat × Nat × Nat) :
    type1Entry W keep radials CBnb CAna cb ca = type1Entry W keep radials CAna CBnb ca cb := by
  rw [type1Entry_eq_sum, type1Entry_eq_sum, type1Sum_swap]

/-- the transposed copy used by the `LA > LB` and B-on-centre branches (`out(na, nb) = t(nb, na)`) -/
def transposeT {γ : Type} [Inhabited γ] (nA nB : Nat) (t : Array γ) : Array γ :=
  (Array.range (nA * nB)).map fun i => t[(i % nB) * nA + (i / nB)]!

theorem transpose_index {nA nB i : Nat} (hi : i < nA * nB) :
    (i % nB) * nA + i / nB < nB * nA ∧ ((i % nB) * nA + i / nB) % nA = i / nB ∧ ((i % nB) * nA + i / nB) / nA = i % nB := by
  have hB : 0 < nB := Nat.pos_of_ne_zero fun h => by
    rw [h, Nat.mul_zero] at hi
    exact Nat.not_lt_zero _ hi
  have hq : i / nB < nA := (Nat.div_lt_iff_lt_mul hB).mpr hi
  exact ⟨MixedRadix.digit_lt (Nat.mod_lt i hB) hq, MixedRadix.digit_mod hq, MixedRadix.digit_div hq⟩

theorem transposeT_size {γ : Type} [Inhabited γ] (nA nB : Nat) (t : Array γ) : (transposeT nA nB t).size = nA * nB := by
  rw [transposeT, Array.size_map, Array.size_range]

theorem transposeT_getElem {γ : Type} [Inhabited γ] (nA nB : Nat) (t : Array γ) (i : Nat)
    (hi : i < (transposeT nA nB t).size) : (transposeT nA nB t)[i] = t[(i % nB) * nA + i / nB]! := by
  simp only [transposeT, Array.getElem_map, Array.getElem_range]

theorem transposeT_involutive {γ : Type} [Inhabited γ] (nA nB : Nat) (t : Array γ) (h : t.size = nA * nB) :
    transposeT nA nB (transposeT nB nA t) = t := by
  refine Array.ext (by rw [transposeT_size, h]) fun i h1 h2 => ?_
  obtain ⟨hj, hm, hd⟩ := transpose_index (h ▸ h2 : i < nA * nB)
  rw [transposeT_getElem, getElem!_pos _ _ ((transposeT_size nB nA t).symm ▸ hj), transposeT_getElem, hm, hd,
    Nat.mul_comm, Nat.div_add_mod]
  exact getElem!_pos t i h2

/-! ### non-vacuity: a concrete instance over ℕ (lam = 1, ca = (1,0,1), cb = (0,1,0)) -/
namespace Example

def om : Nat → Nat → Nat → Nat → Nat → Nat → Nat → Nat :=
  fun ax ay az lam mi lam1 m1 => ax + 2 * ay + az + lam + mi + lam1 * m1 + 1

def kp : Nat → Bool := fun C => decide (1 < C)

def rad : Nat → Nat → Nat → Nat := fun N l1 l2 => N + 2 * l1 + l2 + 1

def cA : Nat → Nat → Nat → Nat := fun k l m => k + l + 2 * m + 1

def cB : Nat → Nat → Nat → Nat := fun k l m => k + 3 * l + m + 1

def sA : Array (Array Nat) := #[#[1], #[1, 2, 3], #[2, 0, 1, 1, 3], #[1, 1, 0, 2, 0, 1, 1]]

def sB : Array (Array Nat) := #[#[2], #[0, 1, 1], #[1, 0, 3, 0, 1]]

theorem sum_value : rolledUpSum om kp 2 1 rad cA cB sA sB (1, 0, 1) (0, 1, 0) 1 = 4032452 := by decide +kernel

example : rolledUpSum om kp 2 1 rad cA cB sA sB (1, 0, 1) (0, 1, 0) 1 = 4032452 := sum_value

example : (rolledUpBlock om kp 2 1 rad cA cB sA sB (1, 0, 1) (0, 1, 0)).getD 1 0 = 4032452 :=
  (rolledUpBlock_getD om kp 2 1 rad cA cB sA sB (1, 0, 1) (0, 1, 0) 1 (by decide)).trans sum_value

example : (rolledUpBlock om kp 2 1 (radT rad) cB cA sB sA (0, 1, 0) (1, 0, 1)).getD 1 0 = 4032452 := by
  rw [rolledUpBlock_swap]
  exact (rolledUpBlock_getD om kp 2 1 rad cA cB sA sB (1, 0, 1) (0, 1, 0) 1 (by decide)).trans sum_value

/-- the transposition of the radial table is needed: without it the exchanged sum is a different number -/
example : rolledUpSum om kp 2 1 rad cB cA sB sA (0, 1, 0) (1, 0, 1) 1 = 3793320 := by decide +kernel

example : type1Sum (fun k l m lam mu => k + 2 * l + 3 * m + lam * mu + 1) kp rad cA cB (1, 0, 1) (0, 1, 0) = 8259 := by decide +kernel

end Example

end Ecpint.C07
