/- C07 — facts about the generated classes of the working tree's build (regenerated table Gen/QClasses.lean). -/
import Ecpint.Gen.QClasses
namespace Ecpint.C07
open Ecpint.Gen

def swapT (t : Nat × Nat × Nat) : Nat × Nat × Nat := (t.1, t.2.2, t.2.1)

/-- the radial entries a class fills: list A as computed, list B copied back with l1 and l2 exchanged -/
def filled (c : QClass) : List (Nat × Nat × Nat) := c.triplesA ++ c.triplesB.map swapT

/-- list A holds only l1 ≤ l2, list B (stored with the shells exchanged) only l1 < l2: for l1 ≠ l2 both orders of the two
shells end up in the SAME primitive radial call, so those radial integrals are symmetric bit for bit -/
theorem triples_ordered : ∀ c ∈ qclasses, (∀ t ∈ c.triplesA, t.2.1 ≤ t.2.2) ∧ (∀ t ∈ c.triplesB, t.2.1 < t.2.2) := by
  decide +kernel

/-- for LA = LB, list B holds exactly the entries of list A with l1 < l2.  Only up to order: A is sorted by (N, l1, l2),
B by (N, l2, l1); deciding `Perm` is cheap here because the two orders differ only inside a group of equal N -/
theorem triplesB_perm : ∀ c ∈ qclasses, c.LA = c.LB →
    (c.triplesA.filter fun t => t.2.1 < t.2.2).Perm c.triplesB := by
  decide +kernel

/-- for classes with LA = LB the filled set is closed under (N, l1, l2) ↔ (N, l2, l1): exchanging two shells of the same
angular momentum requests the mirror image of every radial integral -/
theorem triples_swap_closed : ∀ c ∈ qclasses, c.LA = c.LB → ∀ t ∈ filled c, swapT t ∈ filled c := by
  intro c hc h t ht
  have hB : ∀ s, s ∈ c.triplesB ↔ s ∈ c.triplesA ∧ s.2.1 < s.2.2 := fun s => by
    rw [← (triplesB_perm c hc h).mem_iff, List.mem_filter, decide_eq_true_eq]
  simp only [filled, List.mem_append, List.mem_map] at ht ⊢
  rcases ht with hA | ⟨s, hs, rfl⟩
  · rcases Nat.lt_or_eq_of_le ((triples_ordered c hc).1 t hA) with hlt | heq
    · exact Or.inr ⟨t, (hB t).mpr ⟨hA, hlt⟩, rfl⟩
    · have hself : swapT t = t := by
        obtain ⟨N, l1, l2⟩ := t
        have h12 : l1 = l2 := heq
        rw [swapT, h12]
      exact Or.inl (hself ▸ hA)
  · exact Or.inl ((hB s).mp hs).1

/-- only classes with LA ≤ LB are generated; the other order is served by the transposing dispatch -/
theorem classes_ordered : ∀ c ∈ qclasses, c.LA ≤ c.LB := by decide +kernel

end Ecpint.C07
