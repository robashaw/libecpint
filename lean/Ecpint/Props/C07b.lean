/- C07 (part b) — the LA ≤ LB dispatch of `ECPIntegral::type2` is exactly symmetric: calling it with the two shells
   exchanged runs the SAME generated class with the SAME arguments and returns the transposed copy, for every scalar
   (no arithmetic law needed - so it holds bit for bit in doubles).  Definitions: Model/ShellPair.lean (`type2`). -/
import Ecpint.Model.ShellPair
namespace Ecpint.C07
open Ecpint.ShellPair Ecpint.Contraction

variable {α : Type} [Flt α]

/-- the shell-pair data as the exchanged call sees it -/
def swapData (d : PairData α) : PairData α :=
  { LA := d.LB, LB := d.LA, A := d.B, B := d.A, A2 := d.B2, Am := d.Bm, B2 := d.A2, Bm := d.Am, RAB2 := d.RAB2,
    aOn := d.bOn, bOn := d.aOn }

/-- `out(nb, na, ·) = t(na, nb, ·)`: the (ncart LB × ncart LA)-shaped transposed copy of an (ncart LA × ncart LB)-shaped table -/
def transposeBlock (nA nB : Nat) (t : Array (Array α)) : Array (Array α) :=
  (Array.range (nB * nA)).map fun i => t[(i % nA) * nB + (i / nA)]!

/-- both shells off the ECP centre, LA < LB: the exchanged call (which takes the `LA > LB` branch) returns the transposed
copy of what the direct call returns — the generated class Q(LA, LB, λ) is invoked with identical arguments in both -/
theorem type2_general_swap (E : Engine α) (sw : Switches) (pwf : Nat → α → α) (maxPow : Nat)
    (classes : Nat → Nat → Nat → Option (Gen.QClass × Option (Array (UTerm α))))
    (lam : Nat) (U : Ecp α) (sA sB : Shell α) (d : PairData α) (CA CB : Nat → Nat → Nat → Nat → α) (par par' : Params α)
    (hA : d.aOn = false) (hB : d.bOn = false) (hL : d.LA < d.LB) (hcls : (classes d.LA d.LB lam).isSome) :
    type2 E sw pwf maxPow classes lam U sB sA (swapData d) CB CA par'
      = transposeBlock (ncart d.LA) (ncart d.LB) (type2 E sw pwf maxPow classes lam U sA sB d CA CB par) := by
  obtain ⟨⟨cls, terms⟩, hc⟩ := Option.isSome_iff_exists.mp hcls
  have hle : d.LA ≤ d.LB := Nat.le_of_lt hL
  have hnle : ¬ d.LB ≤ d.LA := Nat.not_le.mpr hL
  unfold type2
  simp only [swapData, hA, hB, Bool.false_and, Bool.false_eq_true, if_false, hle, hnle, if_true, hc]
  rfl

end Ecpint.C07
