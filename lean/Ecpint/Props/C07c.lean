/- C07c — exchange symmetry (i, x) ↔ (j, y) of the recurrence-defined radial integrals `Q` with equal Bessel orders.

   The recurrences (`Ecpint/Model/RadialRec.lean`) lower the first order with eq 28 and the second with eqs 29/33, so
   `Q p x y fam i i k` and `Q p y x (swapFam fam) i i k` are different expressions in the base integrals
   (F and G^B on one side, F and G^A on the other).

   The symmetry is NOT a consequence of `Reductions` (`Q_exchange_1_1_2_not_from_Reductions`), which only speaks
   about N ≤ 0 and leaves G^B_3, G^A_3, … free.  What is needed is the SAME four integration-by-parts relations at
   N ≥ 1, in the multiplied-out form `(N − 1)·T_N = 2p·T_{N+2} − …` (at N = 1 the factor vanishes and the relation is
   a constraint between T_3 and the level-2 integrals): `ReductionsUp`.  From `ReductionsUp` alone (neither the N ≤ 0
   relations nor p ≠ 0 are used) the symmetry of `Q l l k` is proved for l ≤ 3 at every k ≥ 2l and every even k from
   2 to 2l, and for l = 4 at k = 2, 4.  The relations that a small k would need at N ≤ 0 enter with a factor (k − 2),
   (k − 2)(k − 4), …; for an even k they drop out, for an odd k < 2l they do not, and the symmetry then does not
   follow from `ReductionsUp` (not stated as a theorem: the family with G^B_0 = 1 and every other base integral 0 satisfies
   it, and at p = x = 1, y = 2 its `Q 2 2 3` is 3/16 against 0 from the other side).  Every equal-order case the library generates has k even (`Q_exchange_generated`).
   Each proof is a `linear_combination` of instances of `ReductionsUp` with explicit coefficients (found by exact
   elimination) plus multiples of `x·x⁻¹ = 1`, `y·y⁻¹ = 1`, checked here by `ring`. -/
import Ecpint.Lemmas.RadialRec
import Ecpint.Lemmas.RadialEval
import Ecpint.Gen.RadialCases
import Mathlib.Tactic.Ring
import Mathlib.Tactic.FieldSimp
import Mathlib.Tactic.NormNum
import Mathlib.Tactic.LinearCombination
namespace Ecpint.C07c
open Ecpint.RadialRec

section
variable {K : Type} [Field K]

/-- the families seen from the other shell: sinh·sinh and cosh·cosh stay, the two mixed families are exchanged -/
def swapFam (fam : Fam K) : Fam K := { F := fam.F, H := fam.H, GA := fam.GB, GB := fam.GA }

set_option linter.unusedSectionVars false in
theorem swapFam_swapFam (fam : Fam K) : swapFam (swapFam fam) = fam := rfl

theorem reductions_swap {p x y : K} {fam : Fam K} (h : Reductions p x y fam) :
    Reductions p y x (swapFam fam) := by
  refine ⟨fun N hN => ?_, fun N hN => ?_, fun N hN => ?_, fun N hN => ?_⟩
  · simp only [swapFam]
    rw [h.hF N hN]
    ring
  · simp only [swapFam]
    rw [h.hGA N hN]
    ring
  · simp only [swapFam]
    rw [h.hGB N hN]
    ring
  · simp only [swapFam]
    rw [h.hH N hN]
    ring

theorem reductions_swap_iff {p x y : K} {fam : Fam K} :
    Reductions p y x (swapFam fam) ↔ Reductions p x y fam :=
  ⟨reductions_swap (fam := swapFam fam), reductions_swap⟩

/-- the same four integration-by-parts relations at N ≥ 1, multiplied out (at N = 1 the left side is 0) -/
structure ReductionsUp (p x y : K) (fam : Fam K) : Prop where
  hF : ∀ N : Int, 1 ≤ N → ((N : K) - 1) * fam.F N = 2 * p * fam.F (N + 2) - 2 * y * fam.GB (N + 1) - 2 * x * fam.GA (N + 1)
  hGB : ∀ N : Int, 1 ≤ N → ((N : K) - 1) * fam.GB N = 2 * p * fam.GB (N + 2) - 2 * y * fam.F (N + 1) - 2 * x * fam.H (N + 1)
  hGA : ∀ N : Int, 1 ≤ N → ((N : K) - 1) * fam.GA N = 2 * p * fam.GA (N + 2) - 2 * y * fam.H (N + 1) - 2 * x * fam.F (N + 1)
  hH : ∀ N : Int, 1 ≤ N → ((N : K) - 1) * fam.H N = 2 * p * fam.H (N + 2) - 2 * y * fam.GA (N + 1) - 2 * x * fam.GB (N + 1)

theorem reductionsUp_swap {p x y : K} {fam : Fam K} (h : ReductionsUp p x y fam) :
    ReductionsUp p y x (swapFam fam) := by
  refine ⟨fun N hN => ?_, fun N hN => ?_, fun N hN => ?_, fun N hN => ?_⟩
  · simp only [swapFam]
    rw [h.hF N hN]
    ring
  · simp only [swapFam]
    rw [h.hGA N hN]
    ring
  · simp only [swapFam]
    rw [h.hGB N hN]
    ring
  · simp only [swapFam]
    rw [h.hH N hN]
    ring

/-- Below N = 1 a relation is not available; the proofs at order ≥ 2 use it there only times a factor that vanishes
when it is not -/
theorem ReductionsUp.mul {p x y : K} {fam : Fam K} (h : ReductionsUp p x y fam) {c : K} {N : Int} (hc : c = 0 ∨ 1 ≤ N) :
    c * (((N : K) - 1) * fam.F N) = c * (2 * p * fam.F (N + 2) - 2 * y * fam.GB (N + 1) - 2 * x * fam.GA (N + 1)) ∧
    c * (((N : K) - 1) * fam.GB N) = c * (2 * p * fam.GB (N + 2) - 2 * y * fam.F (N + 1) - 2 * x * fam.H (N + 1)) ∧
    c * (((N : K) - 1) * fam.GA N) = c * (2 * p * fam.GA (N + 2) - 2 * y * fam.H (N + 1) - 2 * x * fam.F (N + 1)) ∧
    c * (((N : K) - 1) * fam.H N) = c * (2 * p * fam.H (N + 2) - 2 * y * fam.GA (N + 1) - 2 * x * fam.GB (N + 1)) := by
  rcases hc with rfl | hN
  · simp only [zero_mul, and_self]
  · rw [h.hF N hN, h.hGB N hN, h.hGA N hN, h.hH N hN]
    exact ⟨rfl, rfl, rfl, rfl⟩

/-- `Reductions` in the multiplied-out form (so `Reductions` + `ReductionsUp` = the one relation at every integer N) -/
theorem reductions_mul [CharZero K] {p x y : K} {fam : Fam K} (h : Reductions p x y fam) (N : Int) (hN : N ≤ 0) :
    ((N : K) - 1) * fam.F N = 2 * p * fam.F (N + 2) - 2 * y * fam.GB (N + 1) - 2 * x * fam.GA (N + 1) ∧
    ((N : K) - 1) * fam.GB N = 2 * p * fam.GB (N + 2) - 2 * y * fam.F (N + 1) - 2 * x * fam.H (N + 1) ∧
    ((N : K) - 1) * fam.GA N = 2 * p * fam.GA (N + 2) - 2 * y * fam.H (N + 1) - 2 * x * fam.F (N + 1) ∧
    ((N : K) - 1) * fam.H N = 2 * p * fam.H (N + 2) - 2 * y * fam.GA (N + 1) - 2 * x * fam.GB (N + 1) := by
  have hN1 : N ≠ 1 := by omega
  have hne : (N : K) - 1 ≠ 0 := sub_ne_zero.2 (by exact_mod_cast hN1)
  refine ⟨?_, ?_, ?_, ?_⟩
  · rw [h.hF N hN]
    field_simp
  · rw [h.hGB N hN]
    field_simp
  · rw [h.hGA N hN]
    field_simp
  · rw [h.hH N hN]
    field_simp

end

def cmFam : Fam ℚ := { F := fun _ => 0, GB := fun N => if N = 3 then 1 else 0, GA := fun _ => 0, H := fun _ => 0 }

theorem cmFam_reductions (p x y : ℚ) : Reductions p x y cmFam := by
  refine ⟨fun N hN => ?_, fun N hN => ?_, fun N hN => ?_, fun N hN => ?_⟩
  · have h1 : ¬ (N + 1 = 3) := by omega
    simp [cmFam, h1]
  · have h1 : ¬ (N = 3) := by omega
    have h2 : ¬ (N + 2 = 3) := by omega
    simp [cmFam, h1, h2]
  · simp [cmFam]
  · have h1 : ¬ (N + 1 = 3) := by omega
    simp [cmFam, h1]

/-- `Reductions` alone does not give the exchange symmetry: `Q 1 1 2 = p/x·G^B_3 − (y/x + p/(2xy))·F_2`, and `Reductions`
does not constrain G^B_3 -/
theorem Q_exchange_1_1_2_not_from_Reductions :
    ∃ fam : Fam ℚ, Reductions 1 1 1 fam ∧ Reductions 1 1 1 (swapFam fam) ∧
      Q 1 1 1 fam 1 1 2 ≠ Q 1 1 1 (swapFam fam) 1 1 2 := by
  refine ⟨cmFam, cmFam_reductions 1 1 1, reductions_swap (cmFam_reductions 1 1 1), ?_⟩
  norm_num [Q, recI, recJ, leaf, swapFam, cmFam]

section
variable {K : Type} [Field K] [CharZero K]

omit [CharZero K] in
theorem Q_exchange_0_0 (p x y : K) (fam : Fam K) (k : Int) :
    Q p x y fam 0 0 k = Q p y x (swapFam fam) 0 0 k := by
  rw [Q_zero_zero, Q_zero_zero]
  rfl

/-- a closed form that is visibly symmetric under the exchange -/
theorem Q_1_1_closed (p x y : K) (hx : x ≠ 0) (fam : Fam K) (h : ReductionsUp p x y fam)
    (k : Int) (hk : 2 ≤ k) :
    Q p x y fam 1 1 k = fam.H k - ((2 - (k : K)) * fam.F (k - 2) + 2 * p * fam.F k) / (4 * x * y) := by
  have hxi : x * x⁻¹ = 1 := mul_inv_cancel₀ hx
  have eGBm1 := h.hGB (k - 1) (by omega)
  simp only [radial_eval] at eGBm1
  simp only [radial_eval]
  push_cast at eGBm1 ⊢
  linear_combination ((-1/2 : K) * x⁻¹) * eGBm1 + (fam.H k) * hxi

theorem Q_exchange_1_1 (p x y : K) (hx : x ≠ 0) (hy : y ≠ 0) (fam : Fam K) (h : ReductionsUp p x y fam)
    (k : Int) (hk : 2 ≤ k) :
    Q p x y fam 1 1 k = Q p y x (swapFam fam) 1 1 k := by
  rw [Q_1_1_closed p x y hx fam h k hk, Q_1_1_closed p y x hy (swapFam fam) (reductionsUp_swap h) k hk]
  simp only [swapFam]
  ring

/-- order 2: the relations at N = k − 3, k − 3, k − 2 enter with the factor k − 2, so k = 2 does without them -/
theorem Q_exchange_2_2 (p x y : K) (hx : x ≠ 0) (hy : y ≠ 0) (fam : Fam K) (h : ReductionsUp p x y fam)
    (k : Int) (hk : k = 2 ∨ 4 ≤ k) :
    Q p x y fam 2 2 k = Q p y x (swapFam fam) 2 2 k := by
  have hxi : x * x⁻¹ = 1 := mul_inv_cancel₀ hx
  have hyi : y * y⁻¹ = 1 := mul_inv_cancel₀ hy
  have h2 : (k : K) - 2 = 0 ∨ 4 ≤ k := hk.imp_left (by rintro rfl; norm_num)
  obtain ⟨-, eGBm3, eGAm3, -⟩ := h.mul (N := k - 3) (h2.imp_right (by omega))
  obtain ⟨eFm2, -, -, -⟩ := h.mul (N := k - 2) (h2.imp_right (by omega))
  have eGAm1 := h.hGA (k - 1) (by omega)
  have eGBm1 := h.hGB (k - 1) (by omega)
  have eF0 := h.hF k (by omega)
  simp only [radial_eval] at eGAm3 eGBm3 eFm2 eGAm1 eGBm1 eF0
  simp only [radial_eval]
  simp only [swapFam]
  push_cast at eGAm3 eGBm3 eFm2 eGAm1 eGBm1 eF0 ⊢
  linear_combination
    ((3/8 : K) * x⁻¹ * y⁻¹^2) * eGAm3
    + ((-3/8 : K) * x⁻¹^2 * y⁻¹) * eGBm3
    + ((-1/4 : K) * y⁻¹^2 + (1/4 : K) * x⁻¹^2) * eFm2
    + ((-1/2 : K) * x⁻¹ + (-1/2 : K) * x * y⁻¹^2 + (-3/4 : K) * p * x⁻¹ * y⁻¹^2) * eGAm1
    + ((1/2 : K) * y⁻¹ + (1/2 : K) * y * x⁻¹^2 + (3/4 : K) * p * x⁻¹^2 * y⁻¹) * eGBm1
    + ((1/2 : K) * p * y⁻¹^2 + (-1/2 : K) * p * x⁻¹^2) * eF0
    + ((((1/2 : K) + (-1/4 : K) * k) * y⁻¹^2) * fam.F (k - 2)
        + (((-3/2 : K) + (3/4 : K) * k) * x⁻¹ * y⁻¹) * fam.H (k - 2)
        + (((1 : K) + (-1/2 : K) * k) * x⁻¹) * fam.GA (k - 1)
        + ((1 : K) + (1/2 : K) * p * y⁻¹^2) * fam.F k
        + ((-1 : K) * y * x⁻¹ + (-3/2 : K) * p * x⁻¹ * y⁻¹) * fam.H k
        + ((1 : K) * p * x⁻¹) * fam.GA (k + 1)) * hxi
    + ((((-1/2 : K) + (1/4 : K) * k) * x⁻¹^2) * fam.F (k - 2)
        + (((3/2 : K) + (-3/4 : K) * k) * x⁻¹ * y⁻¹) * fam.H (k - 2)
        + (((-1 : K) + (1/2 : K) * k) * y⁻¹) * fam.GB (k - 1)
        + ((-1 : K) + (-1/2 : K) * p * x⁻¹^2) * fam.F k
        + ((1 : K) * x * y⁻¹ + (3/2 : K) * p * x⁻¹ * y⁻¹) * fam.H k
        + ((-1 : K) * p * y⁻¹) * fam.GB (k + 1)) * hyi

/-- order 3: the relations at N = k − 5, k − 5, k − 4 enter with the factor (k − 2)(k − 4), those at N = k − 3, k − 3,
k − 2, k − 2 with k − 2 -/
theorem Q_exchange_3_3 (p x y : K) (hx : x ≠ 0) (hy : y ≠ 0) (fam : Fam K) (h : ReductionsUp p x y fam)
    (k : Int) (hk : k = 2 ∨ k = 4 ∨ 6 ≤ k) :
    Q p x y fam 3 3 k = Q p y x (swapFam fam) 3 3 k := by
  have hxi : x * x⁻¹ = 1 := mul_inv_cancel₀ hx
  have hyi : y * y⁻¹ = 1 := mul_inv_cancel₀ hy
  have h4 : ((k : K) - 2) * ((k : K) - 4) = 0 ∨ 6 ≤ k := by
    rcases hk with rfl | rfl | hk
    · left
      norm_num
    · left
      norm_num
    · exact .inr hk
  have h2 : (k : K) - 2 = 0 ∨ 4 ≤ k := hk.imp (by rintro rfl; norm_num) (by omega)
  obtain ⟨-, eGBm5, eGAm5, -⟩ := h.mul (N := k - 5) (h4.imp_right (by omega))
  obtain ⟨eFm4, -, -, -⟩ := h.mul (N := k - 4) (h4.imp_right (by omega))
  obtain ⟨-, eGBm3, eGAm3, -⟩ := h.mul (N := k - 3) (h2.imp_right (by omega))
  obtain ⟨eFm2, -, -, eHm2⟩ := h.mul (N := k - 2) (h2.imp_right (by omega))
  have eGAm1 := h.hGA (k - 1) (by omega)
  have eGBm1 := h.hGB (k - 1) (by omega)
  have eF0 := h.hF (k) (by omega)
  have eH0 := h.hH (k) (by omega)
  have eGAp1 := h.hGA (k + 1) (by omega)
  have eGBp1 := h.hGB (k + 1) (by omega)
  simp only [radial_eval] at eGAm5 eGBm5 eFm4 eGAm3 eGBm3 eFm2 eHm2 eGAm1 eGBm1 eF0 eH0 eGAp1 eGBp1
  simp only [radial_eval]
  simp only [swapFam]
  push_cast at eGAm5 eGBm5 eFm4 eGAm3 eGBm3 eFm2 eHm2 eGAm1 eGBm1 eF0 eH0 eGAp1 eGBp1 ⊢
  linear_combination
    ((15/32 : K) * x⁻¹^2 * y⁻¹^3) * eGAm5
    + ((-15/32 : K) * x⁻¹^3 * y⁻¹^2) * eGBm5
    + ((-3/8 : K) * x⁻¹ * y⁻¹^3 + (3/8 : K) * x⁻¹^3 * y⁻¹) * eFm4
    + ((-15/8 : K) * p * x⁻¹^2 * y⁻¹^3 + (-3/4 : K) * x⁻¹^2 * y⁻¹ + ((-9/8 : K) + (1/8 : K) * k) * y⁻¹^3) * eGAm3
    + ((15/8 : K) * p * x⁻¹^3 * y⁻¹^2 + (3/4 : K) * x⁻¹ * y⁻¹^2 + ((9/8 : K) + (-1/8 : K) * k) * x⁻¹^3) * eGBm3
    + ((3/2 : K) * p * x⁻¹ * y⁻¹^3 + (-3/2 : K) * p * x⁻¹^3 * y⁻¹ + (1/2 : K) * x * y⁻¹^3 + (-1/2 : K) * x⁻¹^3 * y) * eFm2
    + ((1/4 : K) * x⁻¹^2 + (-1/4 : K) * y⁻¹^2) * eHm2
    + ((3/2 : K) * p * x⁻¹^2 * y⁻¹ + ((9/4 : K) + (-1/2 : K) * k) * p * y⁻¹^3 + (15/8 : K) * p^2 * x⁻¹^2 * y⁻¹^3 + (1/2 : K) * x^2 * y⁻¹^3 + (1/2 : K) * x⁻¹^2 * y + (1/2 : K) * y⁻¹) * eGAm1
    + ((-3/2 : K) * p * x⁻¹ * y⁻¹^2 + ((-9/4 : K) + (1/2 : K) * k) * p * x⁻¹^3 + (-15/8 : K) * p^2 * x⁻¹^3 * y⁻¹^2 + (-1/2 : K) * x * y⁻¹^2 + (-1/2 : K) * x⁻¹ + (-1/2 : K) * x⁻¹^3 * y^2) * eGBm1
    + ((-1 : K) * p * x * y⁻¹^3 + (1 : K) * p * x⁻¹^3 * y + (-3/2 : K) * p^2 * x⁻¹ * y⁻¹^3 + (3/2 : K) * p^2 * x⁻¹^3 * y⁻¹) * eF0
    + ((-1/2 : K) * p * x⁻¹^2 + (1/2 : K) * p * y⁻¹^2) * eH0
    + ((1/2 : K) * p^2 * y⁻¹^3) * eGAp1
    + ((-1/2 : K) * p^2 * x⁻¹^3) * eGBp1
    + ((((-3 : K) + (9/4 : K) * k + (-3/8 : K) * k^2) * x⁻¹ * y⁻¹^3) * fam.F (k - 4)
        + (((15/2 : K) + (-45/8 : K) * k + (15/16 : K) * k^2) * x⁻¹^2 * y⁻¹^2) * fam.H (k - 4)
        + (((-6 : K) + (9/2 : K) * k + (-3/4 : K) * k^2) * x⁻¹^2 * y⁻¹ + ((-3 : K) + (9/4 : K) * k + (-3/8 : K) * k^2) * y⁻¹^3) * fam.GA (k - 3)
        + (((-3 : K) + (3/2 : K) * k) * p * x⁻¹ * y⁻¹^3 + ((3/2 : K) + (-3/4 : K) * k) * x * y⁻¹^3 + ((-3 : K) + (3/2 : K) * k) * x⁻¹ * y⁻¹) * fam.F (k - 2)
        + (((15/2 : K) + (-15/4 : K) * k) * p * x⁻¹^2 * y⁻¹^2 + ((9/2 : K) + (-11/4 : K) * k + (1/4 : K) * k^2) * x⁻¹^2 + ((3 : K) + (-3/2 : K) * k) * y⁻¹^2) * fam.H (k - 2)
        + (((-6 : K) + (3 : K) * k) * p * x⁻¹^2 * y⁻¹ + ((-3 : K) + (3/2 : K) * k) * p * y⁻¹^3 + ((-2 : K) + (1 : K) * k) * x⁻¹^2 * y) * fam.GA (k - 1)
        + (((1 : K) + (-1/2 : K) * k) * x⁻¹) * fam.GB (k - 1)
        + ((3/2 : K) * p * x * y⁻¹^3 + (-3 : K) * p * x⁻¹ * y⁻¹ + (-3/2 : K) * p^2 * x⁻¹ * y⁻¹^3 + (-1 : K) * x⁻¹ * y) * fam.F (k)
        + ((1 : K) + ((9/2 : K) + (-1 : K) * k) * p * x⁻¹^2 + (3 : K) * p * y⁻¹^2 + (15/4 : K) * p^2 * x⁻¹^2 * y⁻¹^2 + (1 : K) * x⁻¹^2 * y^2) * fam.H (k)
        + ((-2 : K) * p * x⁻¹^2 * y + (-3 : K) * p^2 * x⁻¹^2 * y⁻¹ + (-3/2 : K) * p^2 * y⁻¹^3) * fam.GA (k + 1)
        + ((1 : K) * p * x⁻¹) * fam.GB (k + 1)
        + ((1 : K) * p^2 * x⁻¹^2) * fam.H (k + 2)) * hxi
    + ((((3 : K) + (-9/4 : K) * k + (3/8 : K) * k^2) * x⁻¹^3 * y⁻¹) * fam.F (k - 4)
        + (((-15/2 : K) + (45/8 : K) * k + (-15/16 : K) * k^2) * x⁻¹^2 * y⁻¹^2) * fam.H (k - 4)
        + (((6 : K) + (-9/2 : K) * k + (3/4 : K) * k^2) * x⁻¹ * y⁻¹^2 + ((3 : K) + (-9/4 : K) * k + (3/8 : K) * k^2) * x⁻¹^3) * fam.GB (k - 3)
        + (((3 : K) + (-3/2 : K) * k) * p * x⁻¹^3 * y⁻¹ + ((3 : K) + (-3/2 : K) * k) * x⁻¹ * y⁻¹ + ((-3/2 : K) + (3/4 : K) * k) * x⁻¹^3 * y) * fam.F (k - 2)
        + (((-15/2 : K) + (15/4 : K) * k) * p * x⁻¹^2 * y⁻¹^2 + ((-3 : K) + (3/2 : K) * k) * x⁻¹^2 + ((-9/2 : K) + (11/4 : K) * k + (-1/4 : K) * k^2) * y⁻¹^2) * fam.H (k - 2)
        + (((-1 : K) + (1/2 : K) * k) * y⁻¹) * fam.GA (k - 1)
        + (((6 : K) + (-3 : K) * k) * p * x⁻¹ * y⁻¹^2 + ((3 : K) + (-3/2 : K) * k) * p * x⁻¹^3 + ((2 : K) + (-1 : K) * k) * x * y⁻¹^2) * fam.GB (k - 1)
        + ((3 : K) * p * x⁻¹ * y⁻¹ + (-3/2 : K) * p * x⁻¹^3 * y + (3/2 : K) * p^2 * x⁻¹^3 * y⁻¹ + (1 : K) * x * y⁻¹) * fam.F (k)
        + ((-1 : K) + (-3 : K) * p * x⁻¹^2 + ((-9/2 : K) + (1 : K) * k) * p * y⁻¹^2 + (-15/4 : K) * p^2 * x⁻¹^2 * y⁻¹^2 + (-1 : K) * x^2 * y⁻¹^2) * fam.H (k)
        + ((-1 : K) * p * y⁻¹) * fam.GA (k + 1)
        + ((2 : K) * p * x * y⁻¹^2 + (3 : K) * p^2 * x⁻¹ * y⁻¹^2 + (3/2 : K) * p^2 * x⁻¹^3) * fam.GB (k + 1)
        + ((-1 : K) * p^2 * y⁻¹^2) * fam.H (k + 2)) * hyi

theorem Q_exchange_4_4_2 (p x y : K) (hx : x ≠ 0) (hy : y ≠ 0) (fam : Fam K) (h : ReductionsUp p x y fam) :
    Q p x y fam 4 4 2 = Q p y x (swapFam fam) 4 4 2 := by
  have hxi : x * x⁻¹ = 1 := mul_inv_cancel₀ hx
  have hyi : y * y⁻¹ = 1 := mul_inv_cancel₀ hy
  have e0 := h.hGA 1 (by norm_num)
  have e1 := h.hGB 1 (by norm_num)
  have e2 := h.hF 2 (by norm_num)
  have e3 := h.hH 2 (by norm_num)
  have e4 := h.hGA 3 (by norm_num)
  have e5 := h.hGB 3 (by norm_num)
  have e6 := h.hF 4 (by norm_num)
  simp only [Int.cast_ofNat, Int.cast_one, Int.reduceAdd] at e0 e1 e2 e3 e4 e5 e6
  simp only [radial_eval, swapFam]
  linear_combination
    ((-1/2 : K) * x⁻¹ + (-1/2 : K) * y^2 * x⁻¹^3 + (-1/2 : K) * x * y⁻¹^2 + (-1/2 : K) * x^3 * y⁻¹^4 + (-5/2 : K) * p * x⁻¹ * y⁻¹^2 + (-9/4 : K) * p * x⁻¹^3 + (-7/4 : K) * p * x * y⁻¹^4 + (-35/8 : K) * p^2 * x⁻¹ * y⁻¹^4 + (-45/8 : K) * p^2 * x⁻¹^3 * y⁻¹^2 + (-105/16 : K) * p^3 * x⁻¹^3 * y⁻¹^4) * e0
    + ((1/2 : K) * y⁻¹ + (1/2 : K) * y * x⁻¹^2 + (1/2 : K) * y^3 * x⁻¹^4 + (1/2 : K) * x^2 * y⁻¹^3 + (9/4 : K) * p * y⁻¹^3 + (5/2 : K) * p * x⁻¹^2 * y⁻¹ + (7/4 : K) * p * y * x⁻¹^4 + (45/8 : K) * p^2 * x⁻¹^2 * y⁻¹^3 + (35/8 : K) * p^2 * x⁻¹^4 * y⁻¹ + (105/16 : K) * p^3 * x⁻¹^4 * y⁻¹^3) * e1
    + ((1/2 : K) * p * y⁻¹^2 + (-1/2 : K) * p * x⁻¹^2 + (-3/2 : K) * p * y^2 * x⁻¹^4 + (3/2 : K) * p * x^2 * y⁻¹^4 + (17/4 : K) * p^2 * y⁻¹^4 + (-17/4 : K) * p^2 * x⁻¹^4 + (45/8 : K) * p^3 * x⁻¹^2 * y⁻¹^4 + (-45/8 : K) * p^3 * x⁻¹^4 * y⁻¹^2) * e2
    + ((1 : K) * p * y * x⁻¹^3 + (-1 : K) * p * x * y⁻¹^3 + (-5/2 : K) * p^2 * x⁻¹ * y⁻¹^3 + (5/2 : K) * p^2 * x⁻¹^3 * y⁻¹) * e3
    + ((-1/2 : K) * p^2 * x⁻¹^3 + (-3/2 : K) * p^2 * x * y⁻¹^4 + (-5/2 : K) * p^3 * x⁻¹ * y⁻¹^4) * e4
    + ((1/2 : K) * p^2 * y⁻¹^3 + (3/2 : K) * p^2 * y * x⁻¹^4 + (5/2 : K) * p^3 * x⁻¹^4 * y⁻¹) * e5
    + ((1/2 : K) * p^3 * y⁻¹^4 + (-1/2 : K) * p^3 * x⁻¹^4) * e6
    + (((1 : K) + (1 : K) * y^2 * x⁻¹^2 + (5 : K) * p * y⁻¹^2 + (9/2 : K) * p * x⁻¹^2 + (-2 : K) * p * x^2 * y⁻¹^4 + (17/4 : K) * p^2 * y⁻¹^4 + (45/4 : K) * p^2 * x⁻¹^2 * y⁻¹^2 + (-9/2 : K) * p^2 * x * x⁻¹ * y⁻¹^4 + (45/8 : K) * p^3 * x⁻¹^2 * y⁻¹^4) * fam.F 2 + ((-1 : K) * y * x⁻¹ + (-1 : K) * y^3 * x⁻¹^3 + (-5 : K) * p * x⁻¹ * y⁻¹ + (-7/2 : K) * p * y * x⁻¹^3 + (-45/4 : K) * p^2 * x⁻¹ * y⁻¹^3 + (-35/4 : K) * p^2 * x⁻¹^3 * y⁻¹ + (-105/8 : K) * p^3 * x⁻¹^3 * y⁻¹^3) * fam.H 2 + ((1 : K) * p * x⁻¹ + (3 : K) * p * y^2 * x⁻¹^3 + (17/2 : K) * p^2 * x⁻¹^3 + (9 : K) * p^2 * x * y⁻¹^4 + (15/4 : K) * p^3 * x⁻¹ * y⁻¹^4 + (45/4 : K) * p^3 * x⁻¹^3 * y⁻¹^2) * fam.GA 3 + ((-2 : K) * p * y * x⁻¹^2 + (5 : K) * p^2 * y⁻¹^3 + (-5 : K) * p^2 * x⁻¹^2 * y⁻¹) * fam.GB 3 + ((1 : K) * p^2 * x⁻¹^2 + (-7 : K) * p^3 * y⁻¹^4) * fam.F 4 + ((-3 : K) * p^2 * y * x⁻¹^3 + (-5 : K) * p^3 * x⁻¹^3 * y⁻¹) * fam.H 4 + ((1 : K) * p^3 * x⁻¹^3) * fam.GA 5) * hxi
    + (((-1 : K) + (-1 : K) * x^2 * y⁻¹^2 + (-9/2 : K) * p * y⁻¹^2 + (-5 : K) * p * x⁻¹^2 + (2 : K) * p * y^2 * x⁻¹^4 + (-45/4 : K) * p^2 * x⁻¹^2 * y⁻¹^2 + (-17/4 : K) * p^2 * x⁻¹^4 + (9/2 : K) * p^2 * y * x⁻¹^4 * y⁻¹ + (-45/8 : K) * p^3 * x⁻¹^4 * y⁻¹^2) * fam.F 2 + ((1 : K) * x * y⁻¹ + (1 : K) * x^3 * y⁻¹^3 + (5 : K) * p * x⁻¹ * y⁻¹ + (7/2 : K) * p * x * y⁻¹^3 + (35/4 : K) * p^2 * x⁻¹ * y⁻¹^3 + (45/4 : K) * p^2 * x⁻¹^3 * y⁻¹ + (105/8 : K) * p^3 * x⁻¹^3 * y⁻¹^3) * fam.H 2 + ((2 : K) * p * x * y⁻¹^2 + (5 : K) * p^2 * x⁻¹ * y⁻¹^2 + (-5 : K) * p^2 * x⁻¹^3) * fam.GA 3 + ((-1 : K) * p * y⁻¹ + (-3 : K) * p * x^2 * y⁻¹^3 + (-17/2 : K) * p^2 * y⁻¹^3 + (-9 : K) * p^2 * y * x⁻¹^4 + (-45/4 : K) * p^3 * x⁻¹^2 * y⁻¹^3 + (-15/4 : K) * p^3 * x⁻¹^4 * y⁻¹) * fam.GB 3 + ((-1 : K) * p^2 * y⁻¹^2 + (7 : K) * p^3 * x⁻¹^4) * fam.F 4 + ((3 : K) * p^2 * x * y⁻¹^3 + (5 : K) * p^3 * x⁻¹ * y⁻¹^3) * fam.H 4 + ((-1 : K) * p^3 * y⁻¹^3) * fam.GB 5) * hyi

theorem Q_exchange_4_4_4 (p x y : K) (hx : x ≠ 0) (hy : y ≠ 0) (fam : Fam K) (h : ReductionsUp p x y fam) :
    Q p x y fam 4 4 4 = Q p y x (swapFam fam) 4 4 4 := by
  have hxi : x * x⁻¹ = 1 := mul_inv_cancel₀ hx
  have hyi : y * y⁻¹ = 1 := mul_inv_cancel₀ hy
  have e0 := h.hGA 1 (by norm_num)
  have e1 := h.hGB 1 (by norm_num)
  have e2 := h.hF 2 (by norm_num)
  have e3 := h.hH 2 (by norm_num)
  have e4 := h.hGA 3 (by norm_num)
  have e5 := h.hGB 3 (by norm_num)
  have e6 := h.hF 4 (by norm_num)
  have e7 := h.hH 4 (by norm_num)
  have e8 := h.hGA 5 (by norm_num)
  have e9 := h.hGB 5 (by norm_num)
  have e10 := h.hF 6 (by norm_num)
  simp only [Int.cast_ofNat, Int.cast_one, Int.reduceAdd] at e0 e1 e2 e3 e4 e5 e6 e7 e8 e9 e10
  simp only [radial_eval, swapFam]
  linear_combination
    ((5/2 : K) * x⁻¹ * y⁻¹^2 + (9/4 : K) * x⁻¹^3 + (7/4 : K) * x * y⁻¹^4 + (35/4 : K) * p * x⁻¹ * y⁻¹^4 + (45/4 : K) * p * x⁻¹^3 * y⁻¹^2 + (315/16 : K) * p^2 * x⁻¹^3 * y⁻¹^4) * e0
    + ((-9/4 : K) * y⁻¹^3 + (-5/2 : K) * x⁻¹^2 * y⁻¹ + (-7/4 : K) * y * x⁻¹^4 + (-45/4 : K) * p * x⁻¹^2 * y⁻¹^3 + (-35/4 : K) * p * x⁻¹^4 * y⁻¹ + (-315/16 : K) * p^2 * x⁻¹^4 * y⁻¹^3) * e1
    + ((-1/2 : K) * y⁻¹^2 + (1/2 : K) * x⁻¹^2 + (3/2 : K) * y^2 * x⁻¹^4 + (-3/2 : K) * x^2 * y⁻¹^4 + (-17/2 : K) * p * y⁻¹^4 + (17/2 : K) * p * x⁻¹^4 + (-135/8 : K) * p^2 * x⁻¹^2 * y⁻¹^4 + (135/8 : K) * p^2 * x⁻¹^4 * y⁻¹^2) * e2
    + ((-1 : K) * y * x⁻¹^3 + (1 : K) * x * y⁻¹^3 + (5 : K) * p * x⁻¹ * y⁻¹^3 + (-5 : K) * p * x⁻¹^3 * y⁻¹) * e3
    + ((-1/2 : K) * x⁻¹ + (-1/2 : K) * y^2 * x⁻¹^3 + (-1/2 : K) * x * y⁻¹^2 + (-1/2 : K) * x^3 * y⁻¹^4 + (-5/2 : K) * p * x⁻¹ * y⁻¹^2 + (-5/4 : K) * p * x⁻¹^3 + (5/4 : K) * p * x * y⁻¹^4 + (25/8 : K) * p^2 * x⁻¹ * y⁻¹^4 + (-45/8 : K) * p^2 * x⁻¹^3 * y⁻¹^2 + (-105/16 : K) * p^3 * x⁻¹^3 * y⁻¹^4) * e4
    + ((1/2 : K) * y⁻¹ + (1/2 : K) * y * x⁻¹^2 + (1/2 : K) * y^3 * x⁻¹^4 + (1/2 : K) * x^2 * y⁻¹^3 + (5/4 : K) * p * y⁻¹^3 + (5/2 : K) * p * x⁻¹^2 * y⁻¹ + (-5/4 : K) * p * y * x⁻¹^4 + (45/8 : K) * p^2 * x⁻¹^2 * y⁻¹^3 + (-25/8 : K) * p^2 * x⁻¹^4 * y⁻¹ + (105/16 : K) * p^3 * x⁻¹^4 * y⁻¹^3) * e5
    + ((1/2 : K) * p * y⁻¹^2 + (-1/2 : K) * p * x⁻¹^2 + (-3/2 : K) * p * y^2 * x⁻¹^4 + (3/2 : K) * p * x^2 * y⁻¹^4 + (11/4 : K) * p^2 * y⁻¹^4 + (-11/4 : K) * p^2 * x⁻¹^4 + (45/8 : K) * p^3 * x⁻¹^2 * y⁻¹^4 + (-45/8 : K) * p^3 * x⁻¹^4 * y⁻¹^2) * e6
    + ((1 : K) * p * y * x⁻¹^3 + (-1 : K) * p * x * y⁻¹^3 + (-5/2 : K) * p^2 * x⁻¹ * y⁻¹^3 + (5/2 : K) * p^2 * x⁻¹^3 * y⁻¹) * e7
    + ((-1/2 : K) * p^2 * x⁻¹^3 + (-3/2 : K) * p^2 * x * y⁻¹^4 + (-5/2 : K) * p^3 * x⁻¹ * y⁻¹^4) * e8
    + ((1/2 : K) * p^2 * y⁻¹^3 + (3/2 : K) * p^2 * y * x⁻¹^4 + (5/2 : K) * p^3 * x⁻¹^4 * y⁻¹) * e9
    + ((1/2 : K) * p^3 * y⁻¹^4 + (-1/2 : K) * p^3 * x⁻¹^4) * e10
    + (((-5 : K) * y⁻¹^2 + (-9/2 : K) * x⁻¹^2 + (2 : K) * x^2 * y⁻¹^4 + (-17/2 : K) * p * y⁻¹^4 + (-45/2 : K) * p * x⁻¹^2 * y⁻¹^2 + (9 : K) * p * x * x⁻¹ * y⁻¹^4 + (-135/8 : K) * p^2 * x⁻¹^2 * y⁻¹^4) * fam.F 2 + ((5 : K) * x⁻¹ * y⁻¹ + (7/2 : K) * y * x⁻¹^3 + (45/2 : K) * p * x⁻¹ * y⁻¹^3 + (35/2 : K) * p * x⁻¹^3 * y⁻¹ + (315/8 : K) * p^2 * x⁻¹^3 * y⁻¹^3) * fam.H 2 + ((-1 : K) * x⁻¹ + (-3 : K) * y^2 * x⁻¹^3 + (-17 : K) * p * x⁻¹^3 + (-18 : K) * p * x * y⁻¹^4 + (-45/4 : K) * p^2 * x⁻¹ * y⁻¹^4 + (-135/4 : K) * p^2 * x⁻¹^3 * y⁻¹^2) * fam.GA 3 + ((2 : K) * y * x⁻¹^2 + (-10 : K) * p * y⁻¹^3 + (10 : K) * p * x⁻¹^2 * y⁻¹) * fam.GB 3 + ((1 : K) + (1 : K) * y^2 * x⁻¹^2 + (5 : K) * p * y⁻¹^2 + (5/2 : K) * p * x⁻¹^2 + (-2 : K) * p * x^2 * y⁻¹^4 + (101/4 : K) * p^2 * y⁻¹^4 + (45/4 : K) * p^2 * x⁻¹^2 * y⁻¹^2 + (-9/2 : K) * p^2 * x * x⁻¹ * y⁻¹^4 + (45/8 : K) * p^3 * x⁻¹^2 * y⁻¹^4) * fam.F 4 + ((-1 : K) * y * x⁻¹ + (-1 : K) * y^3 * x⁻¹^3 + (-5 : K) * p * x⁻¹ * y⁻¹ + (5/2 : K) * p * y * x⁻¹^3 + (-45/4 : K) * p^2 * x⁻¹ * y⁻¹^3 + (25/4 : K) * p^2 * x⁻¹^3 * y⁻¹ + (-105/8 : K) * p^3 * x⁻¹^3 * y⁻¹^3) * fam.H 4 + ((1 : K) * p * x⁻¹ + (3 : K) * p * y^2 * x⁻¹^3 + (11/2 : K) * p^2 * x⁻¹^3 + (9 : K) * p^2 * x * y⁻¹^4 + (15/4 : K) * p^3 * x⁻¹ * y⁻¹^4 + (45/4 : K) * p^3 * x⁻¹^3 * y⁻¹^2) * fam.GA 5 + ((-2 : K) * p * y * x⁻¹^2 + (5 : K) * p^2 * y⁻¹^3 + (-5 : K) * p^2 * x⁻¹^2 * y⁻¹) * fam.GB 5 + ((1 : K) * p^2 * x⁻¹^2 + (-7 : K) * p^3 * y⁻¹^4) * fam.F 6 + ((-3 : K) * p^2 * y * x⁻¹^3 + (-5 : K) * p^3 * x⁻¹^3 * y⁻¹) * fam.H 6 + ((1 : K) * p^3 * x⁻¹^3) * fam.GA 7) * hxi
    + (((9/2 : K) * y⁻¹^2 + (5 : K) * x⁻¹^2 + (-2 : K) * y^2 * x⁻¹^4 + (45/2 : K) * p * x⁻¹^2 * y⁻¹^2 + (17/2 : K) * p * x⁻¹^4 + (-9 : K) * p * y * x⁻¹^4 * y⁻¹ + (135/8 : K) * p^2 * x⁻¹^4 * y⁻¹^2) * fam.F 2 + ((-5 : K) * x⁻¹ * y⁻¹ + (-7/2 : K) * x * y⁻¹^3 + (-35/2 : K) * p * x⁻¹ * y⁻¹^3 + (-45/2 : K) * p * x⁻¹^3 * y⁻¹ + (-315/8 : K) * p^2 * x⁻¹^3 * y⁻¹^3) * fam.H 2 + ((-2 : K) * x * y⁻¹^2 + (-10 : K) * p * x⁻¹ * y⁻¹^2 + (10 : K) * p * x⁻¹^3) * fam.GA 3 + ((1 : K) * y⁻¹ + (3 : K) * x^2 * y⁻¹^3 + (17 : K) * p * y⁻¹^3 + (18 : K) * p * y * x⁻¹^4 + (135/4 : K) * p^2 * x⁻¹^2 * y⁻¹^3 + (45/4 : K) * p^2 * x⁻¹^4 * y⁻¹) * fam.GB 3 + ((-1 : K) + (-1 : K) * x^2 * y⁻¹^2 + (-5/2 : K) * p * y⁻¹^2 + (-5 : K) * p * x⁻¹^2 + (2 : K) * p * y^2 * x⁻¹^4 + (-45/4 : K) * p^2 * x⁻¹^2 * y⁻¹^2 + (-101/4 : K) * p^2 * x⁻¹^4 + (9/2 : K) * p^2 * y * x⁻¹^4 * y⁻¹ + (-45/8 : K) * p^3 * x⁻¹^4 * y⁻¹^2) * fam.F 4 + ((1 : K) * x * y⁻¹ + (1 : K) * x^3 * y⁻¹^3 + (5 : K) * p * x⁻¹ * y⁻¹ + (-5/2 : K) * p * x * y⁻¹^3 + (-25/4 : K) * p^2 * x⁻¹ * y⁻¹^3 + (45/4 : K) * p^2 * x⁻¹^3 * y⁻¹ + (105/8 : K) * p^3 * x⁻¹^3 * y⁻¹^3) * fam.H 4 + ((2 : K) * p * x * y⁻¹^2 + (5 : K) * p^2 * x⁻¹ * y⁻¹^2 + (-5 : K) * p^2 * x⁻¹^3) * fam.GA 5 + ((-1 : K) * p * y⁻¹ + (-3 : K) * p * x^2 * y⁻¹^3 + (-11/2 : K) * p^2 * y⁻¹^3 + (-9 : K) * p^2 * y * x⁻¹^4 + (-45/4 : K) * p^3 * x⁻¹^2 * y⁻¹^3 + (-15/4 : K) * p^3 * x⁻¹^4 * y⁻¹) * fam.GB 5 + ((-1 : K) * p^2 * y⁻¹^2 + (7 : K) * p^3 * x⁻¹^4) * fam.F 6 + ((3 : K) * p^2 * x * y⁻¹^3 + (5 : K) * p^3 * x⁻¹ * y⁻¹^3) * fam.H 6 + ((-1 : K) * p^3 * y⁻¹^3) * fam.GB 7) * hyi

/-- the (l, k) of the generated cases with equal Bessel orders l1 = l2 = l -/
def equalOrderKeys : List (Nat × Nat) := [(0, 2), (0, 4), (0, 6), (0, 8), (0, 10), (0, 12), (1, 2), (1, 4), (1, 6), (1, 8), (1, 10), (2, 2), (2, 4), (2, 6), (2, 8), (3, 2), (3, 4), (3, 6), (4, 2), (4, 4)]

theorem equalOrderKeys_eq :
    equalOrderKeys = ((Ecpint.Gen.radialCaseKeys.filter fun n => n / 10000 = (n / 100) % 100).map fun n => (n / 10000, n % 100)) := by
  decide

/-- every generated equal-order case is exchange symmetric under the N ≥ 1 relations -/
theorem Q_exchange_generated (p x y : K) (hx : x ≠ 0) (hy : y ≠ 0) (fam : Fam K) (h : ReductionsUp p x y fam)
    (l k : Nat) (hlk : (l, k) ∈ equalOrderKeys) :
    Q p x y fam l l (k : Int) = Q p y x (swapFam fam) l l (k : Int) := by
  have hc : ∀ q ∈ equalOrderKeys, q.1 = 0 ∨ (q.1 = 1 ∧ 2 ≤ q.2) ∨ (q.1 = 2 ∧ (q.2 = 2 ∨ 4 ≤ q.2))
      ∨ (q.1 = 3 ∧ (q.2 = 2 ∨ q.2 = 4 ∨ 6 ≤ q.2)) ∨ (q.1 = 4 ∧ (q.2 = 2 ∨ q.2 = 4)) := by decide
  obtain rfl | ⟨rfl, hk⟩ | ⟨rfl, hk⟩ | ⟨rfl, hk⟩ | ⟨rfl, rfl | rfl⟩ := hc (l, k) hlk
  · exact Q_exchange_0_0 p x y fam k
  · exact Q_exchange_1_1 p x y hx hy fam h k (by omega)
  · exact Q_exchange_2_2 p x y hx hy fam h k (by omega)
  · exact Q_exchange_3_3 p x y hx hy fam h k (by omega)
  · exact Q_exchange_4_4_2 p x y hx hy fam h
  · exact Q_exchange_4_4_4 p x y hx hy fam h

/-- the same with the hypotheses of the closed-form case proofs (`Reductions`) next to the N ≥ 1 relations; only the
latter are used -/
theorem Q_exchange_generated_of_reductions (p x y : K) (hx : x ≠ 0) (hy : y ≠ 0) (fam : Fam K)
    (_h : Reductions p x y fam) (hu : ReductionsUp p x y fam) (l k : Nat) (hlk : (l, k) ∈ equalOrderKeys) :
    Q p x y fam l l (k : Int) = Q p y x (swapFam fam) l l (k : Int) :=
  Q_exchange_generated p x y hx hy fam hu l k hlk

end
end Ecpint.C07c
