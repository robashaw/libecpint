/- C08 — translation invariance: the pipeline model (Model/ShellPair.lean) reads the three centres only through the
   differences formed by `mkData`.  Rotation / permutation covariance is NOT proved (see DESIGN.md). -/
import Ecpint.Model.ShellPair
namespace Ecpint.C08
open Ecpint.ShellPair Ecpint.Contraction

variable {α : Type} [Flt α]

def shift3 (c t : α × α × α) : α × α × α := (c.1 + t.1, c.2.1 + t.2.1, c.2.2 + t.2.2)

def Ecp.translate (U : Ecp α) (t : α × α × α) : Ecp α := { U with center := shift3 U.center t }

def Shell.translate (s : Shell α) (t : α × α × α) : Shell α := { s with center := shift3 s.center t }

theorem mkData_translate (hsub : ∀ a c t : α, (a + t) - (c + t) = a - c)
    (U : Ecp α) (sA sB : Shell α) (t : α × α × α) (shiftA shiftB : Int) :
    mkData (Ecp.translate U t) (Shell.translate sA t) (Shell.translate sB t) shiftA shiftB = mkData U sA sB shiftA shiftB := by
  simp [mkData, Ecp.translate, Shell.translate, shift3, hsub]

theorem atOrigin_translate_ecp (U : Ecp α) (t : α × α × α) : (Ecp.translate U t).atOrigin = U.atOrigin := by
  simp [Ecp.translate, Ecp.atOrigin]

theorem atOrigin_translate_shell (s : Shell α) (t : α × α × α) : (Shell.translate s t).atOrigin = s.atOrigin := by
  simp [Shell.translate, Shell.atOrigin]

/-- the block depends on the centres only through `mkData`: two inputs with the same position-free parts and the same
centre differences give the same block (no exact-arithmetic hypothesis) -/
theorem computeShellPair_of_mkData_eq
    (E : Engine α) (sw : Switches) (pwf : Nat → α → α) (pw : α → Nat → α) (maxPow : Nat) (euler sinh1 : α)
    (classes : Nat → Nat → Nat → Option (Gen.QClass × Option (Array (UTerm α))))
    (U U' : Ecp α) (sA sA' sB sB' : Shell α) (shiftA shiftB : Int)
    (hd : mkData U sA sB shiftA shiftB = mkData U' sA' sB' shiftA shiftB)
    (hU : U.atOrigin = U'.atOrigin) (hA : sA.atOrigin = sA'.atOrigin) (hB : sB.atOrigin = sB'.atOrigin) :
    computeShellPair E sw pwf pw maxPow euler sinh1 classes U sA sB shiftA shiftB
      = computeShellPair E sw pwf pw maxPow euler sinh1 classes U' sA' sB' shiftA shiftB := by
  unfold computeShellPair
  rw [hd, hU, hA, hB]

/-- C08 (translation part): with exact subtraction, translating all three centres by a common vector leaves the whole
block unchanged — every switch setting, every class, every branch -/
theorem computeShellPair_translate (hsub : ∀ a c t : α, (a + t) - (c + t) = a - c)
    (E : Engine α) (sw : Switches) (pwf : Nat → α → α) (pw : α → Nat → α) (maxPow : Nat) (euler sinh1 : α)
    (classes : Nat → Nat → Nat → Option (Gen.QClass × Option (Array (UTerm α))))
    (U : Ecp α) (sA sB : Shell α) (t : α × α × α) (shiftA shiftB : Int) :
    computeShellPair E sw pwf pw maxPow euler sinh1 classes (Ecp.translate U t) (Shell.translate sA t) (Shell.translate sB t) shiftA shiftB
      = computeShellPair E sw pwf pw maxPow euler sinh1 classes U sA sB shiftA shiftB :=
  computeShellPair_of_mkData_eq E sw pwf pw maxPow euler sinh1 classes _ _ _ _ _ _ shiftA shiftB
    (mkData_translate hsub U sA sB t shiftA shiftB) (atOrigin_translate_ecp U t) (atOrigin_translate_shell sA t)
    (atOrigin_translate_shell sB t)

end Ecpint.C08
