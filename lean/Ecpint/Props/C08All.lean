/- C08 — root of the property's theorems:
   C08   translation invariance of the pipeline model (centres enter through differences only)
   C08b  REFLECTION covariance ("reflections sign the elements") of the three angular contractions, and of the pipeline's
         `rolledUp` / `rolledUpSpecial` with the model's own angular tables, `makeCTab` and harmonics evaluator `rsh`.
         Not covered: proper rotations and axis permutations (search only); type-1 radials' harmonic factor is a hypothesis. -/
import Ecpint.Props.C08
import Ecpint.Props.C08b
