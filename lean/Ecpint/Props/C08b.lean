/- C08 (part b) — reflection covariance of the angular contractions.  Reflecting all centres through the coordinate plane
   ⊥ axis q (x_q ↦ −x_q) multiplies the element for Cartesian components ca, cb by (−1)^(e_q ca + e_q cb).
   Stage 1 proves this over any commutative ring for the three contractions in explicit-sum form, from hypotheses on the
   data they are fed: (hΩ) `SelRule`, the parity selection rule of the angular table ((hW) `SelRule1` for type 1);
   (hS) `ReflS`, the harmonics of the reflected direction are the signed harmonics; (hC) `ReflC`, the same for the
   binomial-shift tables.  Stages 2 to 4 discharge them over ℝ for the model's own data: (hC) for `makeCTab`; (hΩ), (hW)
   because every table entry is a sphere integral (C13e); (hS) for harmonics defined as the model's harmonic polynomials
   (`harmTable`) and for the model's evaluator `Angular.rsh` itself, by running the two calls in lockstep
   (`rsh_reflect_dir`).  The pipeline functions of Model/ShellPair.lean are treated with the harmonics tables left as
   variables (`rolledUp_reflect_of`, `rolledUpSpecial_reflect_of`), so that either kind of harmonics can be put in.
   Definitions: Ecpint/Model/Contraction.lean, Model/Angular.lean, Model/ShellPair.lean. -/
import Ecpint.Model.Contraction
import Ecpint.Props.C07
import Ecpint.Props.C09
import Ecpint.Props.C01a
-- after the imports above for speed only (any order builds): under `[Flt α]` instance search then meets `Flt.toMul`, … before Mathlib's algebra
import Ecpint.Model.ShellPair
import Ecpint.Props.C01d
import Ecpint.Props.C13e
import Ecpint.Lemmas.MixedRadix
import Ecpint.Lemmas.ArrayLemmas
namespace Ecpint.C08b
open Ecpint.Contraction Ecpint.ContractionLemmas

section Stage1
variable {K : Type} [CommRing K]

theorem calcC_neg_of_pw [Div K] (fac : Array K) (pw : K → Nat → K) (hpw : ∀ x n, pw (-x) n = (-1) ^ n * pw x n)
    (a m : Nat) (A : K) :
    calcC fac pw a m (-A) = (-1) ^ (a - m) * calcC fac pw a m A := by
  unfold calcC
  simp only []
  rw [hpw]
  ring

/-- the binomial-shift identity behind (hC): `calcC(a, m, −A) = (−1)^(a−m) calcC(a, m, A)` -/
theorem calcC_neg [Div K] (fac : Array K) (a m : Nat) (A : K) :
    calcC fac (fun x n => x ^ n) a m (-A) = (-1) ^ (a - m) * calcC fac (fun x n => x ^ n) a m A :=
  calcC_neg_of_pw fac _ (fun x n => neg_pow x n) a m A

/-! ### Stage 1: the three contractions, over any commutative ring -/

theorem ecomp_le {q : Nat} {a c : Nat × Nat × Nat} (h : a ∈ subIdx c) : ecomp q a ≤ ecomp q c := by
  have := (Ecpint.C01.subIdx_mem c a).mp h
  unfold ecomp
  split_ifs <;> omega

theorem tsum_le {a c : Nat × Nat × Nat} (h : a ∈ subIdx c) : Contraction.tsum a ≤ tsum c := by
  have := (Ecpint.C01.subIdx_mem c a).mp h
  unfold Contraction.tsum
  omega

/-- the shortcut of the three contractions: a test that does not see the sign of its argument does not see a factor (−1)^n -/
theorem ite_keep_reflect {keep : K → Bool} (hkeep : ∀ x, keep (-x) = keep x) (n : Nat) {C s X' X : K} (h : X' = s * X) :
    (if keep ((-1) ^ n * C) then X' else 0) = s * (if keep C then X else 0) := by
  have hk : keep ((-1) ^ n * C) = keep C := by
    rcases neg_one_pow_eq_or K n with e | e
    · rw [e, one_mul]
    · rw [e, neg_one_mul, hkeep]
  rw [hk, mul_ite, mul_zero, h]

theorem neg_one_pow_mul_self (n : Nat) : (-1 : K) ^ n * (-1) ^ n = 1 := by
  rw [← pow_add, Even.neg_one_pow ⟨n, rfl⟩]

theorem neg_one_pow_sub {a c : Nat} (h : a ≤ c) : (-1 : K) ^ (c - a) = (-1) ^ c * (-1) ^ a := by
  have e : (-1 : K) ^ c = (-1) ^ (c - a) * (-1) ^ a := by rw [← pow_add, Nat.sub_add_cancel h]
  rw [e, mul_assoc, neg_one_pow_mul_self, mul_one]

/-- (hC): `C'` is the binomial-shift table of the component `c` for the centre reflected in coordinate q -/
def ReflC (q : Nat) (c : Nat × Nat × Nat) (C' C : Nat → Nat → Nat → K) : Prop :=
  ∀ k l m, (k, l, m) ∈ subIdx c → C' k l m = (-1) ^ (ecomp q c - ecomp q (k, l, m)) * C k l m

/-- (hS): `S'` holds the harmonics of the reflected direction, up to order L -/
def ReflS (σ : Nat → Nat → K) (L : Nat) (S' S : Array (Array K)) : Prop :=
  ∀ l m, l ≤ L → m < 2 * l + 1 → get2 S' l m = σ l m * get2 S l m

/-- (hΩ): the selection rule of the type-2 table for coordinate q, for monomials of degree ≤ D.  Over a ring that may
have zero divisors "the entry vanishes unless its sign is +1" has to be said as `x = sign · x` -/
def SelRule (q : Nat) (σ : Nat → Nat → K) (lam D : Nat) (omega : Nat → Nat → Nat → Nat → Nat → Nat → Nat → K) : Prop :=
  ∀ k l m mi lam1 m1, k + l + m ≤ D → mi < 2 * lam + 1 → lam1 ≤ lam + (k + l + m) → m1 < 2 * lam1 + 1 →
    omega k l m lam mi lam1 m1 = (-1) ^ (ecomp q (k, l, m)) * σ lam mi * σ lam1 m1 * omega k l m lam mi lam1 m1

/-- (hW): the selection rule of the type-1 table for coordinate q, at the monomial x^k y^l z^m -/
def SelRule1 (q : Nat) (σ : Nat → Nat → K) (W : Nat → Nat → Nat → Nat → Nat → K) (k l m : Nat) : Prop :=
  ∀ lam idx, lam ≤ k + l + m → idx < 2 * lam + 1 →
    W k l m lam idx = (-1) ^ (ecomp q (k, l, m)) * σ lam idx * W k l m lam idx

theorem coef_reflect {q : Nat} {ca cb a b : Nat × Nat × Nat} {CA CA' CB CB' : Nat → Nat → Nat → K}
    (hCA : ReflC q ca CA' CA) (hCB : ReflC q cb CB' CB) (ha : a ∈ subIdx ca) (hb : b ∈ subIdx cb) :
    CA' a.1 a.2.1 a.2.2 * CB' b.1 b.2.1 b.2.2
      = (-1) ^ (ecomp q ca + ecomp q cb + (ecomp q a + ecomp q b)) * (CA a.1 a.2.1 a.2.2 * CB b.1 b.2.1 b.2.2) := by
  rw [hCA _ _ _ ha, hCB _ _ _ hb, neg_one_pow_sub (ecomp_le ha), neg_one_pow_sub (ecomp_le hb)]
  simp only [pow_add]
  ring

/-! the sign bookkeeping of one term of each contraction, as identities about variables -/

theorem signs_cancel₃ {u v w : K} (hu : u * u = 1) (hv : v * v = 1) (hw : w * w = 1) (X p C R a b : K) :
    p * (X * (u * v) * C) * R * (u * w * a) * (v * w * b) = X * (p * C * R * a * b) := by
  linear_combination (X * p * C * R * a * b) * (v * v * (w * w) * hu + w * w * hv + hw)

theorem sel_absorb {y s w : K} (hw : w = y * s * w) (X C R : K) : X * y * C * w * (s * R) = X * (C * w * R) := by
  linear_combination (-(X * C * R)) * hw

theorem sel_absorb₂ {X y s0 s2 wa wb : K} (ha : wa = X * s0 * wa) (hb : wb = y * s0 * s2 * wb) (h0 : s0 * s0 = 1)
    (hy : y * y = 1) (h2 : s2 * s2 = 1) (X' p C R S : K) :
    p * (X' * y * C) * R * (s2 * S) * wa * wb = X * X' * (p * C * R * S * wa * wb) := by
  linear_combination (p * C * R * S * X') * ((y * s2 * wa) * hb + (s0 * wa * wb * (s2 * s2)) * hy + (s0 * wa * wb) * h2
    + (s0 * wb) * ha + (X * wa * wb) * h0)

theorem wContr_reflect {omega : Nat → Nat → Nat → Nat → Nat → Nat → Nat → K} {lam D q : Nat} {σ : Nat → Nat → K}
    (hσ : ∀ l m, σ l m * σ l m = 1) (hΩ : SelRule q σ lam D omega) {L : Nat} {S S' : Array (Array K)} (hS : ReflS σ L S' S)
    (a : Nat × Nat × Nat) (ha : Contraction.tsum a ≤ D) (lam1 mi : Nat) (hmi : mi < 2 * lam + 1)
    (h1 : lam1 ≤ lam + Contraction.tsum a) (hL : lam1 ≤ L) :
    wContr omega lam S' a lam1 mi = (-1) ^ (ecomp q a) * σ lam mi * wContr omega lam S a lam1 mi := by
  rw [Ecpint.C09.wContr_eq_sum, Ecpint.C09.wContr_eq_sum]
  refine sum_map_mul_congr fun m1 hm1 => ?_
  have hm : m1 < 2 * lam1 + 1 := List.mem_range.mp hm1
  rw [hS lam1 m1 hL hm]
  linear_combination (σ lam1 m1 * get2 S lam1 m1) * hΩ a.1 a.2.1 a.2.2 mi lam1 m1 ha hmi h1 hm
    + ((-1) ^ (ecomp q a) * σ lam mi * get2 S lam1 m1 * omega a.1 a.2.1 a.2.2 lam mi lam1 m1) * hσ lam1 m1

theorem rolledUpSum_reflect {omega : Nat → Nat → Nat → Nat → Nat → Nat → Nat → K} {keep : K → Bool}
    (hkeep : ∀ x, keep (-x) = keep x) (prefac : K) {lam : Nat} (radials : Nat → Nat → Nat → K)
    {CAna CBnb CAna' CBnb' : Nat → Nat → Nat → K} {SA SB SA' SB' : Array (Array K)} {ca cb : Nat × Nat × Nat}
    {q : Nat} {σ : Nat → Nat → K} (hσ : ∀ l m, σ l m * σ l m = 1) {D : Nat}
    (hDa : Contraction.tsum ca ≤ D) (hDb : Contraction.tsum cb ≤ D) (hΩ : SelRule q σ lam D omega)
    (hSA : ReflS σ (lam + Contraction.tsum ca) SA' SA) (hSB : ReflS σ (lam + Contraction.tsum cb) SB' SB)
    (hCA : ReflC q ca CAna' CAna) (hCB : ReflC q cb CBnb' CBnb) (mi : Nat) (hmi : mi < 2 * lam + 1) :
    C07.rolledUpSum omega keep prefac lam radials CAna' CBnb' SA' SB' ca cb mi
      = (-1) ^ (ecomp q ca + ecomp q cb) * C07.rolledUpSum omega keep prefac lam radials CAna CBnb SA SB ca cb mi := by
  unfold C07.rolledUpSum
  dsimp only
  refine sum_map_mul_congr fun a ha => sum_map_mul_congr fun b hb => ?_
  have hta := tsum_le ha
  have htb := tsum_le hb
  rw [coef_reflect hCA hCB ha hb]
  refine ite_keep_reflect hkeep _ (sum_map_mul_congr fun lam1 h1 => sum_map_mul_congr fun lam2 h2 => ?_)
  have h1' : lam1 ≤ lam + Contraction.tsum a := Nat.le_of_lt_succ (List.mem_range.mp h1)
  have h2' : lam2 ≤ lam + Contraction.tsum b := ((C01.parityRange_mem _ _ _).mp h2).1
  rw [wContr_reflect hσ hΩ hSA a (le_trans hta hDa) lam1 mi hmi h1' (by omega),
    wContr_reflect hσ hΩ hSB b (le_trans htb hDb) lam2 mi hmi h2' (by omega)]
  simp only [pow_add]
  exact signs_cancel₃ (neg_one_pow_mul_self _) (neg_one_pow_mul_self _) (hσ lam mi) ..

theorem rolledUpSpecialSum_reflect {omega : Nat → Nat → Nat → Nat → Nat → Nat → Nat → K} {keep : K → Bool}
    (hkeep : ∀ x, keep (-x) = keep x) (prefac : K) {lam : Nat} (radials : Nat → Nat → Nat → K)
    {CBnb CBnb' : Nat → Nat → Nat → K} {SB SB' : Array (Array K)} {ca cb : Nat × Nat × Nat}
    {q : Nat} {σ : Nat → Nat → K} (hσ : ∀ l m, σ l m * σ l m = 1) (hσ0 : σ 0 0 = 1) {D : Nat}
    (hDa : Contraction.tsum ca ≤ D) (hDb : Contraction.tsum cb ≤ D) (hΩ : SelRule q σ lam D omega)
    (hSB : ReflS σ (lam + Contraction.tsum cb) SB' SB) (hCB : ReflC q cb CBnb' CBnb) (mi : Nat) (hmi : mi < 2 * lam + 1) :
    C01.rolledUpSpecialSum omega keep prefac lam radials CBnb' SB' ca cb mi
      = (-1) ^ (ecomp q ca + ecomp q cb) * C01.rolledUpSpecialSum omega keep prefac lam radials CBnb SB ca cb mi := by
  unfold C01.rolledUpSpecialSum
  dsimp only
  refine sum_map_mul_congr fun b hb => ?_
  have htb := tsum_le hb
  rw [hCB _ _ _ hb]
  refine ite_keep_reflect hkeep _ (sum_map_mul_congr fun lam2 h2 => sum_map_mul_congr fun m2 hm2 => ?_)
  have h2' : lam2 ≤ lam + Contraction.tsum b := ((C01.parityRange_mem _ _ _).mp h2).1
  have hm2' : m2 < 2 * lam2 + 1 := List.mem_range.mp hm2
  -- only CB and SB change: the parity of `ca` comes out of the selection rule for the factor omega(ca; lam, mi; 0, 0)
  -- (S_00 is a constant: σ 0 0 = 1)
  have ha := hΩ ca.1 ca.2.1 ca.2.2 mi 0 0 hDa hmi (Nat.zero_le _) Nat.one_pos
  rw [hσ0, mul_one] at ha
  rw [hSB lam2 m2 (by omega) hm2', neg_one_pow_sub (ecomp_le hb), pow_add]
  exact sel_absorb₂ ha (hΩ b.1 b.2.1 b.2.2 mi lam2 m2 (le_trans htb hDb) hmi h2' hm2') (hσ lam mi)
    (neg_one_pow_mul_self _) (hσ lam2 m2) ..

theorem type1Term_reflect {W : Nat → Nat → Nat → Nat → Nat → K} {keep : K → Bool} (hkeep : ∀ x, keep (-x) = keep x)
    {radials radials' : Nat → Nat → Nat → K} {q : Nat} {σ : Nat → Nat → K} {k l m : Nat} (hW : SelRule1 q σ W k l m)
    (hR : ∀ lam idx, lam ≤ k + l + m → idx < 2 * lam + 1 →
      radials' (k + l + m) lam idx = σ lam idx * radials (k + l + m) lam idx)
    (N : Nat) (C : K) :
    C07.type1Term W keep radials' k l m ((-1) ^ (N + ecomp q (k, l, m)) * C)
      = (-1) ^ N * C07.type1Term W keep radials k l m C := by
  unfold C07.type1Term
  refine ite_keep_reflect hkeep _ (sum_map_mul_congr fun lam hlam => sum_map_mul_congr fun mu hmu => ?_)
  have h1 : lam ≤ k + l + m := ((C01.parityRange_mem _ _ _).mp hlam).1
  have h2 : mu ≤ lam := ((C01.parityRange_mem _ _ _).mp hmu).1
  have h3 : (if l % 2 = 1 then lam - mu else lam + mu) < 2 * lam + 1 := by
    split_ifs <;> omega
  rw [hR lam _ h1 h3, pow_add]
  exact sel_absorb (hW lam _ h1 h3) ..

/-- **C08, local part** (the type-1 element).  (hR): the radial factor contains the harmonic of the combined direction -/
theorem type1Entry_reflect {W : Nat → Nat → Nat → Nat → Nat → K} {keep : K → Bool} (hkeep : ∀ x, keep (-x) = keep x)
    {radials radials' : Nat → Nat → Nat → K} {CAna CBnb CAna' CBnb' : Nat → Nat → Nat → K} {ca cb : Nat × Nat × Nat}
    {q : Nat} {σ : Nat → Nat → K}
    (hW : ∀ k l m, k + l + m ≤ Contraction.tsum ca + Contraction.tsum cb → SelRule1 q σ W k l m)
    (hR : ∀ ix lam idx, ix ≤ Contraction.tsum ca + Contraction.tsum cb → lam ≤ ix → idx < 2 * lam + 1 →
      radials' ix lam idx = σ lam idx * radials ix lam idx)
    (hCA : ReflC q ca CAna' CAna) (hCB : ReflC q cb CBnb' CBnb) :
    type1Entry W keep radials' CAna' CBnb' ca cb
      = (-1) ^ (ecomp q ca + ecomp q cb) * type1Entry W keep radials CAna CBnb ca cb := by
  rw [C07.type1Entry_eq_sum, C07.type1Entry_eq_sum]
  unfold C07.type1Sum
  refine sum_map_mul_congr fun k1 hk1 => sum_map_mul_congr fun k2 hk2 => sum_map_mul_congr fun l1 hl1 =>
    sum_map_mul_congr fun l2 hl2 => sum_map_mul_congr fun m1 hm1 => sum_map_mul_congr fun m2 hm2 => ?_
  rw [List.mem_range] at hk1 hk2 hl1 hl2 hm1 hm2
  have ha : (k1, l1, m1) ∈ subIdx ca := (C01.subIdx_mem ca (k1, l1, m1)).mpr
    ⟨Nat.le_of_lt_succ hk1, Nat.le_of_lt_succ hl1, Nat.le_of_lt_succ hm1⟩
  have hb : (k2, l2, m2) ∈ subIdx cb := (C01.subIdx_mem cb (k2, l2, m2)).mpr
    ⟨Nat.le_of_lt_succ hk2, Nat.le_of_lt_succ hl2, Nat.le_of_lt_succ hm2⟩
  have hdeg : (k1 + k2) + (l1 + l2) + (m1 + m2) ≤ Contraction.tsum ca + Contraction.tsum cb := by
    unfold Contraction.tsum
    omega
  rw [coef_reflect hCA hCB ha hb, ← ecomp_add q k1 l1 m1 k2 l2 m2]
  exact type1Term_reflect hkeep (hW _ _ _ hdeg) (fun lam idx h1 h2 => hR _ lam idx hdeg h1 h2) _ _

/-- **C08, semi-local part, general position**: the block computed from the reflected data (binomial tables of the
reflected centres, harmonics of the reflected directions; radial integrals unchanged) is the original block with every
entry multiplied by (−1)^(e_q ca + e_q cb) -/
theorem rolledUpBlock_reflect_map (omega : Nat → Nat → Nat → Nat → Nat → Nat → Nat → K) (keep : K → Bool)
    (hkeep : ∀ x, keep (-x) = keep x) (prefac : K) (lam : Nat) (radials : Nat → Nat → Nat → K)
    (CAna CBnb CAna' CBnb' : Nat → Nat → Nat → K) (SA SB SA' SB' : Array (Array K)) (ca cb : Nat × Nat × Nat)
    (q : Nat) (σ : Nat → Nat → K) (hσ : ∀ l m, σ l m * σ l m = 1) (D : Nat)
    (hDa : Contraction.tsum ca ≤ D) (hDb : Contraction.tsum cb ≤ D)
    (hΩ : ∀ k l m mi lam1 m1, k + l + m ≤ D → mi < 2 * lam + 1 → lam1 ≤ lam + (k + l + m) → m1 < 2 * lam1 + 1 →
      omega k l m lam mi lam1 m1 = (-1) ^ (ecomp q (k, l, m)) * σ lam mi * σ lam1 m1 * omega k l m lam mi lam1 m1)
    (hSA : ∀ l m, l ≤ lam + Contraction.tsum ca → m < 2 * l + 1 → get2 SA' l m = σ l m * get2 SA l m)
    (hSB : ∀ l m, l ≤ lam + Contraction.tsum cb → m < 2 * l + 1 → get2 SB' l m = σ l m * get2 SB l m)
    (hCA : ∀ k l m, (k, l, m) ∈ subIdx ca → CAna' k l m = (-1) ^ (ecomp q ca - ecomp q (k, l, m)) * CAna k l m)
    (hCB : ∀ k l m, (k, l, m) ∈ subIdx cb → CBnb' k l m = (-1) ^ (ecomp q cb - ecomp q (k, l, m)) * CBnb k l m) :
    rolledUpBlock omega keep prefac lam radials CAna' CBnb' SA' SB' ca cb
      = (rolledUpBlock omega keep prefac lam radials CAna CBnb SA SB ca cb).map
          fun v => (-1) ^ (ecomp q ca + ecomp q cb) * v := by
  rw [C07.rolledUpBlock_eq, C07.rolledUpBlock_eq, Array.map_map]
  exact range_map_congr fun mi hmi => rolledUpSum_reflect hkeep prefac radials hσ hDa hDb hΩ hSA hSB hCA hCB mi hmi

/-- **C08, semi-local part, shell A on the ECP centre**: same sign (−1)^(e_q ca + e_q cb) -/
theorem rolledUpSpecialBlock_reflect_map (omega : Nat → Nat → Nat → Nat → Nat → Nat → Nat → K) (keep : K → Bool)
    (hkeep : ∀ x, keep (-x) = keep x) (prefac : K) (lam : Nat) (radials : Nat → Nat → Nat → K)
    (CBnb CBnb' : Nat → Nat → Nat → K) (SB SB' : Array (Array K)) (ca cb : Nat × Nat × Nat)
    (q : Nat) (σ : Nat → Nat → K) (hσ : ∀ l m, σ l m * σ l m = 1) (hσ0 : σ 0 0 = 1) (D : Nat)
    (hDa : Contraction.tsum ca ≤ D) (hDb : Contraction.tsum cb ≤ D)
    (hΩ : ∀ k l m mi lam1 m1, k + l + m ≤ D → mi < 2 * lam + 1 → lam1 ≤ lam + (k + l + m) → m1 < 2 * lam1 + 1 →
      omega k l m lam mi lam1 m1 = (-1) ^ (ecomp q (k, l, m)) * σ lam mi * σ lam1 m1 * omega k l m lam mi lam1 m1)
    (hSB : ∀ l m, l ≤ lam + Contraction.tsum cb → m < 2 * l + 1 → get2 SB' l m = σ l m * get2 SB l m)
    (hCB : ∀ k l m, (k, l, m) ∈ subIdx cb → CBnb' k l m = (-1) ^ (ecomp q cb - ecomp q (k, l, m)) * CBnb k l m) :
    rolledUpSpecialBlock omega keep prefac lam radials CBnb' SB' ca cb
      = (rolledUpSpecialBlock omega keep prefac lam radials CBnb SB ca cb).map
          fun v => (-1) ^ (ecomp q ca + ecomp q cb) * v := by
  rw [C01.rolledUpSpecialBlock_eq, C01.rolledUpSpecialBlock_eq, Array.map_map]
  exact range_map_congr fun mi hmi =>
    rolledUpSpecialSum_reflect hkeep prefac radials hσ hσ0 hDa hDb hΩ hSB hCB mi hmi

theorem getD_map_mul (b : Array K) (s : K) (i : Nat) : (b.map fun v => s * v).getD i 0 = s * b.getD i 0 := by
  rw [Array.getD_eq_getD_getElem?, Array.getD_eq_getD_getElem?, Array.getElem?_map]
  cases b[i]? with
  | none => exact (mul_zero s).symm
  | some v => rfl

/-! ### (hC): the binomial-shift tables of the reflected centres -/

/-- the reflection of a vector through the coordinate plane ⊥ axis q -/
def reflect3 (q : Nat) (A : K × K × K) : K × K × K :=
  if q = 0 then (-A.1, A.2.1, A.2.2) else if q = 1 then (A.1, -A.2.1, A.2.2) else (A.1, A.2.1, -A.2.2)

/-- the entry C(na; k, l, m) of `makeC` for the Cartesian component `c` and the centre difference `A` -/
def cProd [Div K] (fac : Array K) (pw : K → Nat → K) (c : Nat × Nat × Nat) (A : K × K × K) (k l m : Nat) : K :=
  if k ≤ c.1 ∧ l ≤ c.2.1 ∧ m ≤ c.2.2 then
    calcC fac pw c.1 k A.1 * calcC fac pw c.2.1 l A.2.1 * calcC fac pw c.2.2 m A.2.2
  else 0

theorem cProd_reflect [Div K] (fac : Array K) (pw : K → Nat → K) (hpw : ∀ x n, pw (-x) n = (-1) ^ n * pw x n)
    (c : Nat × Nat × Nat) (A : K × K × K) (q k l m : Nat) :
    cProd fac pw c (reflect3 q A) k l m = (-1) ^ (ecomp q c - ecomp q (k, l, m)) * cProd fac pw c A k l m := by
  unfold cProd reflect3 ecomp
  split_ifs <;> simp only [calcC_neg_of_pw fac pw hpw, mul_zero] <;> ring
end Stage1

section Tables
open Ecpint.ShellPair

open Ecpint.MixedRadix in
/-- `makeCTab` recovers (na, k, l, m) from the address `cAt` forms -/
theorem idx_decomp (d na k l m : Nat) (hk : k < d) (hl : l < d) (hm : m < d) :
    (((na * d + k) * d + l) * d + m) % d = m ∧ ((((na * d + k) * d + l) * d + m) / d) % d = l ∧
    ((((na * d + k) * d + l) * d + m) / (d * d)) % d = k ∧ (((na * d + k) * d + l) * d + m) / (d * d * d) = na := by
  have e1 := digit_div (a := (na * d + k) * d + l) hm
  have e2 := digit_div (a := na * d + k) hl
  refine ⟨digit_mod hm, ?_, ?_, ?_⟩
  · rw [e1, digit_mod hl]
  · rw [← Nat.div_div_eq_div_mul, e1, e2, digit_mod hk]
  · rw [← Nat.div_div_eq_div_mul, ← Nat.div_div_eq_div_mul, e1, e2, digit_div hk]

variable {α : Type} [Flt α]

theorem cAt_makeCTab (E : Engine α) (pw : α → Nat → α) (L : Nat) (A : α × α × α) (na k l m : Nat)
    (hna : na < (cartList L).length) (hk : k ≤ L) (hl : l ≤ L) (hm : m ≤ L) :
    cAt (makeCTab E pw L A) L na k l m =
      if k ≤ ((cartList L).toArray[na]!).1 ∧ l ≤ ((cartList L).toArray[na]!).2.1 ∧ m ≤ ((cartList L).toArray[na]!).2.2 then
        ShellPair.calcC E pw ((cartList L).toArray[na]!).1 k A.1 * ShellPair.calcC E pw ((cartList L).toArray[na]!).2.1 l A.2.1
          * ShellPair.calcC E pw ((cartList L).toArray[na]!).2.2 m A.2.2
      else 0 := by
  have hk' := Nat.lt_succ_of_le hk
  have hl' := Nat.lt_succ_of_le hl
  have hm' := Nat.lt_succ_of_le hm
  obtain ⟨e1, e2, e3, e4⟩ := idx_decomp (L + 1) na k l m hk' hl' hm'
  have hb : ((na * (L + 1) + k) * (L + 1) + l) * (L + 1) + m < (cartList L).length * (L + 1) * (L + 1) * (L + 1) :=
    MixedRadix.digit_lt (MixedRadix.digit_lt (MixedRadix.digit_lt hna hk') hl') hm'
  unfold cAt makeCTab
  simp only []
  rw [getElem!_pos _ _ (by simpa using hb)]
  simp only [Array.getElem_map, Array.getElem_range, e1, e2, e3, e4]

end Tables

section Stage2
open Ecpint.Angular Ecpint.C13c Ecpint.C13d Ecpint.C13e

/-! ### Stage 2 (ℝ): the sign of the model's harmonic polynomials under the three reflections -/

/-- the sign the harmonic S_{lam, idx − lam} picks up under the reflection of coordinate q -/
def sigR (q lam idx : ℕ) : ℝ := (-1) ^ parR q lam idx

theorem sigR_mul_self (q lam idx : ℕ) : sigR q lam idx * sigR q lam idx = 1 :=
  neg_one_pow_mul_self _

theorem sigR_zero (q : ℕ) : sigR q 0 0 = 1 := by
  unfold sigR parR muOf cOf
  simp

theorem sigR_of_even {q lam idx : ℕ} (h : parR q lam idx % 2 = 0) : sigR q lam idx = 1 := by
  unfold sigR
  rw [neg_one_pow_eq_pow_mod_two, h, pow_zero]

theorem sigR_of_odd {q lam idx : ℕ} (h : parR q lam idx % 2 = 1) : sigR q lam idx = -1 := by
  unfold sigR
  rw [neg_one_pow_eq_pow_mod_two, h, pow_one]

/-! sanity: the signs of the low harmonics (Props/C13f: S_{1,1} ∝ x, S_{1,−1} ∝ y, S_{1,0} ∝ z, S_{2,−2} ∝ xy, S_{2,1} ∝ xz) -/
example : sigR 0 1 2 = -1 ∧ sigR 1 1 2 = 1 ∧ sigR 2 1 2 = 1 :=
  ⟨sigR_of_odd (by decide), sigR_of_even (by decide), sigR_of_even (by decide)⟩

example : sigR 0 1 0 = 1 ∧ sigR 1 1 0 = -1 ∧ sigR 2 1 0 = 1 :=
  ⟨sigR_of_even (by decide), sigR_of_odd (by decide), sigR_of_even (by decide)⟩

example : sigR 0 1 1 = 1 ∧ sigR 1 1 1 = 1 ∧ sigR 2 1 1 = -1 :=
  ⟨sigR_of_even (by decide), sigR_of_even (by decide), sigR_of_odd (by decide)⟩

example : sigR 0 2 0 = -1 ∧ sigR 1 2 0 = -1 ∧ sigR 2 2 0 = 1 :=
  ⟨sigR_of_odd (by decide), sigR_of_odd (by decide), sigR_of_even (by decide)⟩

example : sigR 0 2 3 = -1 ∧ sigR 1 2 3 = 1 ∧ sigR 2 2 3 = -1 :=
  ⟨sigR_of_odd (by decide), sigR_of_even (by decide), sigR_of_odd (by decide)⟩

/-- the coordinate index of q (0, 1, anything else: x, y, z) -/
def qi (q : ℕ) : Fin 3 := if q = 0 then 0 else if q = 1 then 1 else 2

/-- reflection of ℝ³ through the coordinate plane ⊥ axis q -/
noncomputable def reflectE (q : ℕ) (v : E3) : E3 := WithLp.toLp 2 fun i => if i = qi q then - v i else v i

theorem reflectE_apply (q : ℕ) (v : E3) (i : Fin 3) : reflectE q v i = if i = qi q then - v i else v i := rfl

theorem mono_reflect (q a b c : ℕ) (v : E3) :
    (reflectE q v) 0 ^ a * (reflectE q v) 1 ^ b * (reflectE q v) 2 ^ c
      = (-1) ^ ecomp q (a, b, c) * (v 0 ^ a * v 1 ^ b * v 2 ^ c) := by
  match q with
  | 0 =>
    show (-v 0) ^ a * v 1 ^ b * v 2 ^ c = (-1) ^ a * _
    rw [neg_pow]
    ring
  | 1 =>
    show v 0 ^ a * (-v 1) ^ b * v 2 ^ c = (-1) ^ b * _
    rw [neg_pow]
    ring
  | _ + 2 =>
    show v 0 ^ a * v 1 ^ b * (-v 2) ^ c = (-1) ^ c * _
    rw [neg_pow]
    ring

theorem neg_one_pow_congr {a b : ℕ} (h : a % 2 = b % 2) : (-1 : ℝ) ^ a = (-1) ^ b := by
  rw [neg_one_pow_eq_pow_mod_two (n := a), neg_one_pow_eq_pow_mod_two (n := b), h]

theorem Sidx_reflect (fac : Array ℝ) (q lam idx : ℕ) (v : E3) :
    Sidx fac lam idx (reflectE q v) = sigR q lam idx * Sidx fac lam idx v := by
  rw [Sidx_def, Sidx_def]
  unfold SU
  rw [Finset.mul_sum]
  refine Finset.sum_congr rfl fun i hi => ?_
  rw [Finset.mul_sum]
  refine Finset.sum_congr rfl fun j hj => ?_
  simp only [Finset.mem_range] at hi hj
  by_cases hU : uklm fac lam (muOf lam idx) i j (cOf lam idx) = 0
  · rw [hU]
    ring
  · have hp := uklm_parity fac q lam idx i j (by omega) (by omega) hU
    have hm := mono_reflect q i j (lam - i - j) v
    unfold sigR
    rw [← neg_one_pow_congr hp]
    linear_combination (uklm fac lam (muOf lam idx) i j (cOf lam idx)) * hm

theorem eq_sign_mul_of_odd_zero (n : ℕ) (x : ℝ) (h : n % 2 = 1 → x = 0) : x = (-1) ^ n * x := by
  rcases Nat.mod_two_eq_zero_or_one n with h0 | h1
  · rw [neg_one_pow_congr (b := 0) (by omega), pow_zero, one_mul]
  · rw [h h1, mul_zero]

end Stage2
section Stage3
open Ecpint.Angular Ecpint.C13c Ecpint.C13d Ecpint.ShellPair

/-! ### Stage 3 (ℝ): (hC), (hS), (hΩ), (hW) for the model's own tables; the model's contractions fed reflected data -/

theorem cartList_getElem_tsum (L na : ℕ) (hna : na < (cartList L).length) :
    Contraction.tsum ((cartList L).toArray[na]!) = L := by
  rw [getElem!_pos _ _ (by simpa using hna)]
  exact (Deriv.cartList_mem_deg L _).mp (List.getElem_mem hna)

theorem cAt_makeCTab_reflect (E : Engine ℝ) (L : ℕ) (A : ℝ × ℝ × ℝ) (q na : ℕ) (hna : na < (cartList L).length) :
    ReflC q ((cartList L).toArray[na]!) (cAt (makeCTab E (fun x n => x ^ n) L (reflect3 q A)) L na)
      (cAt (makeCTab E (fun x n => x ^ n) L A) L na) := by
  intro k l m h
  have hs := (C01.subIdx_mem _ _).mp h
  have ht := cartList_getElem_tsum L na hna
  unfold Contraction.tsum at ht
  dsimp only at hs
  rw [cAt_makeCTab E _ L _ na k l m hna (by omega) (by omega) (by omega),
    cAt_makeCTab E _ L _ na k l m hna (by omega) (by omega) (by omega)]
  -- both sides are `cProd` of the component
  exact cProd_reflect E.fac _ (fun x n => neg_pow x n) _ A q k l m

/-- the table of real spherical harmonics of the direction `v`, *defined as* the model's harmonic polynomials evaluated
at `v`: entry (l, m) = S_{l, m − l}(v), l ≤ lmax, m ≤ 2 l -/
noncomputable def harmTable (fac : Array ℝ) (lmax : ℕ) (v : E3) : Array (Array ℝ) :=
  (Array.range (lmax + 1)).map fun l => (Array.range (2 * l + 1)).map fun m => Sidx fac l m v

theorem get2_harmTable (fac : Array ℝ) (lmax : ℕ) (v : E3) (l m : ℕ) (hl : l ≤ lmax) (hm : m < 2 * l + 1) :
    get2 (harmTable fac lmax v) l m = Sidx fac l m v := by
  simp [get2, harmTable, Array.getD, Nat.lt_succ_of_le hl, hm]

theorem harmTable_reflect (fac : Array ℝ) (lmax q : ℕ) (v : E3) :
    ReflS (sigR q) lmax (harmTable fac lmax (reflectE q v)) (harmTable fac lmax v) := fun l m hl hm => by
  rw [get2_harmTable _ _ _ _ _ hl hm, get2_harmTable _ _ _ _ _ hl hm, Sidx_reflect]

/-- the model's type-2 angular table as a function -/
noncomputable def omegaModel (nf maxLam : ℕ) : ℕ → ℕ → ℕ → ℕ → ℕ → ℕ → ℕ → ℝ :=
  omegaEntry (uklm (facTable (α := ℝ) nf)) (wEntry (uklm (facTable (α := ℝ) nf)) (pijk (α := ℝ)) maxLam)

/-- the model's type-1 angular table as a function -/
noncomputable def wModel (nf maxLam : ℕ) : ℕ → ℕ → ℕ → ℕ → ℕ → ℝ :=
  wEntry (uklm (facTable (α := ℝ) nf)) (pijk (α := ℝ)) maxLam

/-- every entry of the model's tables is a sphere integral (C13e), and an integrand that is odd in coordinate q
integrates to 0 -/
theorem wModel_selRule (nf maxLam q k l m : ℕ) (hnf : 2 * maxLam < nf) (h : k + l + m ≤ maxLam) :
    SelRule1 q (sigR q) (wModel nf maxLam) k l m := by
  intro lam idx h1 _
  unfold sigR wModel
  rw [← pow_add]
  refine eq_sign_mul_of_odd_zero _ _ fun hodd => ?_
  rw [C13e.wEntry_model_all nf maxLam k l m lam idx hnf (by omega)]
  exact mono_Sidx_integral_zero _ q k l m lam idx hodd

/-- D = maxLam − lam: all monomials the table limit covers -/
theorem omegaModel_selRule (nf maxLam q lam : ℕ) (hnf : 2 * maxLam < nf) (hlam : lam ≤ maxLam) :
    SelRule q (sigR q) lam (maxLam - lam) (omegaModel nf maxLam) := by
  intro k l m mi lam1 m1 hD _ h1 _
  unfold sigR omegaModel
  rw [← pow_add, ← pow_add]
  refine eq_sign_mul_of_odd_zero _ _ fun hodd => ?_
  rw [C13e.omegaEntry_model_all nf maxLam k l m lam mi lam1 m1 hnf hlam (by omega)]
  exact mono_Sidx_Sidx_integral_zero _ q k l m lam mi lam1 m1 hodd

/-- **type 1, concrete binomial tables** (the radial factor, which contains the harmonic of the combined direction,
enters through (hR)) -/
theorem model_type1_reflect (E : Engine ℝ) (nf maxLam q LA LB na nb : ℕ) (hnf : 2 * maxLam < nf)
    (keep : ℝ → Bool) (hkeep : ∀ x, keep (-x) = keep x) (radials radials' : ℕ → ℕ → ℕ → ℝ)
    (A B : ℝ × ℝ × ℝ) (hna : na < (cartList LA).length) (hnb : nb < (cartList LB).length)
    (hlim : LA + LB ≤ maxLam)
    (hR : ∀ ix lam idx, ix ≤ LA + LB → lam ≤ ix → idx < 2 * lam + 1 →
      radials' ix lam idx = sigR q lam idx * radials ix lam idx) :
    type1Entry (wModel nf maxLam) keep radials'
        (cAt (makeCTab E (fun x n => x ^ n) LA (reflect3 q A)) LA na)
        (cAt (makeCTab E (fun x n => x ^ n) LB (reflect3 q B)) LB nb)
        ((cartList LA).toArray[na]!) ((cartList LB).toArray[nb]!)
      = (-1) ^ (ecomp q ((cartList LA).toArray[na]!) + ecomp q ((cartList LB).toArray[nb]!))
        * type1Entry (wModel nf maxLam) keep radials
            (cAt (makeCTab E (fun x n => x ^ n) LA A) LA na) (cAt (makeCTab E (fun x n => x ^ n) LB B) LB nb)
            ((cartList LA).toArray[na]!) ((cartList LB).toArray[nb]!) := by
  have hta := cartList_getElem_tsum LA na hna
  have htb := cartList_getElem_tsum LB nb hnb
  exact type1Entry_reflect (σ := sigR q) hkeep
    (fun k l m hd => wModel_selRule nf maxLam q k l m hnf (by omega))
    (fun ix lam idx h1 h2 h3 => hR ix lam idx (by omega) h2 h3)
    (cAt_makeCTab_reflect E LA A q na hna) (cAt_makeCTab_reflect E LB B q nb hnb)

/-! #### the pipeline functions `rolledUp`, `rolledUpSpecial` of Model/ShellPair.lean at ℝ -/

/-- the data-dependent shortcut of the model (`|C| > num/den`) does not see the sign -/
theorem keep_model_neg (n : Int) (d : Nat) (x : ℝ) :
    (fun C : ℝ => decide (Flt.ofRat n d < Flt.abs C)) (-x) = (fun C : ℝ => decide (Flt.ofRat n d < Flt.abs C)) x := by
  have : (Flt.abs (-x) : ℝ) = Flt.abs x := abs_neg x
  simp only [this]

theorem rolledUp_getElem {α : Type} [Flt α] (E : Engine α) (lam LA LB : ℕ) (radials : ℕ → ℕ → ℕ → α)
    (CA CB : ℕ → ℕ → ℕ → ℕ → α) (SA SB : Array (Array α)) (i : ℕ)
    (hi : i < (cartList LA).length * (cartList LB).length) :
    (rolledUp E lam LA LB radials CA CB SA SB)[i]!
      = rolledUpBlock E.omega (fun C => decide (Flt.ofRat 1 1000000000000000 < Flt.abs C))
          (((16 : Nat) : α) * Flt.pi * Flt.pi) lam radials
          (CA (i / (cartList LB).length)) (CB (i % (cartList LB).length)) SA SB
          ((cartList LA).toArray[i / (cartList LB).length]!) ((cartList LB).toArray[i % (cartList LB).length]!) := by
  unfold rolledUp
  exact ArrayLemmas.getBang_map_range _ _ i (by simpa using hi)

theorem rolledUpSpecial_getElem {α : Type} [Flt α] (E : Engine α) (lam LA LB : ℕ) (radials : ℕ → ℕ → ℕ → α)
    (CB : ℕ → ℕ → ℕ → ℕ → α) (SB : Array (Array α)) (i : ℕ)
    (hi : i < (cartList LA).length * (cartList LB).length) :
    (rolledUpSpecial E lam LA LB radials CB SB)[i]!
      = rolledUpSpecialBlock E.omega (fun C => decide (Flt.ofRat 1 1000000000000000 < Flt.abs C))
          (((8 : Nat) : α) * Flt.pi * Flt.sqrt Flt.pi) lam radials
          (CB (i % (cartList LB).length)) SB
          ((cartList LA).toArray[i / (cartList LB).length]!) ((cartList LB).toArray[i % (cartList LB).length]!) := by
  unfold rolledUpSpecial
  exact ArrayLemmas.getBang_map_range _ _ i (by simpa using hi)

theorem div_mod_lt {i nA nB : ℕ} (hi : i < nA * nB) : i / nB < nA ∧ i % nB < nB := by
  have hB : 0 < nB := Nat.pos_of_mul_pos_left (Nat.zero_lt_of_lt hi)
  exact ⟨(Nat.div_lt_iff_lt_mul hB).mpr hi, Nat.mod_lt _ hB⟩

/-- **the pipeline's `rolled_up` at ℝ** (model's angular table in the engine, honest power in `makeC`) with ANY two pairs
of harmonics tables related by (hS) -/
theorem rolledUp_reflect_of (E : Engine ℝ) (nf maxLam q lam LA LB : ℕ) (hnf : 2 * maxLam < nf)
    (hE : E.omega = omegaModel nf maxLam) (radials : ℕ → ℕ → ℕ → ℝ) (A B : ℝ × ℝ × ℝ) {SA SA' SB SB' : Array (Array ℝ)}
    (hSA : ReflS (sigR q) (lam + LA) SA' SA) (hSB : ReflS (sigR q) (lam + LB) SB' SB)
    (hla : lam + LA ≤ maxLam) (hlb : lam + LB ≤ maxLam) (i : ℕ)
    (hi : i < (cartList LA).length * (cartList LB).length) (mi : ℕ) :
    ((rolledUp E lam LA LB radials (cAt (makeCTab E (fun x n => x ^ n) LA (reflect3 q A)) LA)
        (cAt (makeCTab E (fun x n => x ^ n) LB (reflect3 q B)) LB) SA' SB')[i]!).getD mi 0
      = (-1) ^ (ecomp q ((cartList LA).toArray[i / (cartList LB).length]!)
                + ecomp q ((cartList LB).toArray[i % (cartList LB).length]!))
        * ((rolledUp E lam LA LB radials (cAt (makeCTab E (fun x n => x ^ n) LA A) LA)
            (cAt (makeCTab E (fun x n => x ^ n) LB B) LB) SA SB)[i]!).getD mi 0 := by
  obtain ⟨hna, hnb⟩ := div_mod_lt hi
  rw [rolledUp_getElem E lam LA LB radials _ _ _ _ i hi, rolledUp_getElem E lam LA LB radials _ _ _ _ i hi, hE]
  have hta := cartList_getElem_tsum LA _ hna
  have htb := cartList_getElem_tsum LB _ hnb
  rw [rolledUpBlock_reflect_map (omegaModel nf maxLam) _ (keep_model_neg _ _) _ lam radials _ _ _ _ SA SB SA' SB' _ _ q
    (sigR q) (sigR_mul_self q) (maxLam - lam) (by omega) (by omega) (omegaModel_selRule nf maxLam q lam hnf (by omega))
    (fun l m hl => hSA l m (by omega)) (fun l m hl => hSB l m (by omega))
    (cAt_makeCTab_reflect E LA A q _ hna) (cAt_makeCTab_reflect E LB B q _ hnb), getD_map_mul]

/-- … with the harmonics *defined as* the model's harmonic polynomials at the directions -/
theorem rolledUp_reflect (E : Engine ℝ) (nf maxLam q lam LA LB : ℕ) (hnf : 2 * maxLam < nf)
    (hE : E.omega = omegaModel nf maxLam) (radials : ℕ → ℕ → ℕ → ℝ) (A B : ℝ × ℝ × ℝ) (vA vB : E3)
    (hla : lam + LA ≤ maxLam) (hlb : lam + LB ≤ maxLam) (i : ℕ)
    (hi : i < (cartList LA).length * (cartList LB).length) (mi : ℕ) :
    ((rolledUp E lam LA LB radials (cAt (makeCTab E (fun x n => x ^ n) LA (reflect3 q A)) LA)
        (cAt (makeCTab E (fun x n => x ^ n) LB (reflect3 q B)) LB)
        (harmTable E.fac (lam + LA) (reflectE q vA)) (harmTable E.fac (lam + LB) (reflectE q vB)))[i]!).getD mi 0
      = (-1) ^ (ecomp q ((cartList LA).toArray[i / (cartList LB).length]!)
                + ecomp q ((cartList LB).toArray[i % (cartList LB).length]!))
        * ((rolledUp E lam LA LB radials (cAt (makeCTab E (fun x n => x ^ n) LA A) LA)
            (cAt (makeCTab E (fun x n => x ^ n) LB B) LB)
            (harmTable E.fac (lam + LA) vA) (harmTable E.fac (lam + LB) vB))[i]!).getD mi 0 :=
  rolledUp_reflect_of E nf maxLam q lam LA LB hnf hE radials A B (harmTable_reflect _ _ q vA) (harmTable_reflect _ _ q vB)
    hla hlb i hi mi

/-- **the pipeline's `rolled_up_special` at ℝ**, with ANY pair of harmonics tables related by (hS) -/
theorem rolledUpSpecial_reflect_of (E : Engine ℝ) (nf maxLam q lam LA LB : ℕ) (hnf : 2 * maxLam < nf)
    (hE : E.omega = omegaModel nf maxLam) (radials : ℕ → ℕ → ℕ → ℝ) (B : ℝ × ℝ × ℝ) {SB SB' : Array (Array ℝ)}
    (hSB : ReflS (sigR q) (lam + LB) SB' SB)
    (hla : lam + LA ≤ maxLam) (hlb : lam + LB ≤ maxLam) (i : ℕ)
    (hi : i < (cartList LA).length * (cartList LB).length) (mi : ℕ) :
    ((rolledUpSpecial E lam LA LB radials (cAt (makeCTab E (fun x n => x ^ n) LB (reflect3 q B)) LB) SB')[i]!).getD mi 0
      = (-1) ^ (ecomp q ((cartList LA).toArray[i / (cartList LB).length]!)
                + ecomp q ((cartList LB).toArray[i % (cartList LB).length]!))
        * ((rolledUpSpecial E lam LA LB radials (cAt (makeCTab E (fun x n => x ^ n) LB B) LB) SB)[i]!).getD mi 0 := by
  obtain ⟨hna, hnb⟩ := div_mod_lt hi
  rw [rolledUpSpecial_getElem E lam LA LB radials _ _ i hi, rolledUpSpecial_getElem E lam LA LB radials _ _ i hi, hE]
  have hta := cartList_getElem_tsum LA _ hna
  have htb := cartList_getElem_tsum LB _ hnb
  rw [rolledUpSpecialBlock_reflect_map (omegaModel nf maxLam) _ (keep_model_neg _ _) _ lam radials _ _ SB SB' _ _ q
    (sigR q) (sigR_mul_self q) (sigR_zero q) (maxLam - lam) (by omega) (by omega)
    (omegaModel_selRule nf maxLam q lam hnf (by omega)) (fun l m hl => hSB l m (by omega))
    (cAt_makeCTab_reflect E LB B q _ hnb), getD_map_mul]

/-- … with the harmonics *defined as* the model's harmonic polynomials at the direction -/
theorem rolledUpSpecial_reflect (E : Engine ℝ) (nf maxLam q lam LA LB : ℕ) (hnf : 2 * maxLam < nf)
    (hE : E.omega = omegaModel nf maxLam) (radials : ℕ → ℕ → ℕ → ℝ) (B : ℝ × ℝ × ℝ) (vB : E3)
    (hla : lam + LA ≤ maxLam) (hlb : lam + LB ≤ maxLam) (i : ℕ)
    (hi : i < (cartList LA).length * (cartList LB).length) (mi : ℕ) :
    ((rolledUpSpecial E lam LA LB radials (cAt (makeCTab E (fun x n => x ^ n) LB (reflect3 q B)) LB)
        (harmTable E.fac (lam + LB) (reflectE q vB)))[i]!).getD mi 0
      = (-1) ^ (ecomp q ((cartList LA).toArray[i / (cartList LB).length]!)
                + ecomp q ((cartList LB).toArray[i % (cartList LB).length]!))
        * ((rolledUpSpecial E lam LA LB radials (cAt (makeCTab E (fun x n => x ^ n) LB B) LB)
            (harmTable E.fac (lam + LB) vB))[i]!).getD mi 0 :=
  rolledUpSpecial_reflect_of E nf maxLam q lam LA LB hnf hE radials B (harmTable_reflect _ _ q vB) hla hlb i hi mi
end Stage3

/-! ### Stage 4: the model's harmonics evaluator `Angular.rsh` under the three reflections -/

section Stage4Rsh
open Ecpint.Angular Ecpint.C13d

section RshDefs
variable {α : Type} [Flt α]

/-- the diagonal of the Legendre table: first loop of `rsh` -/
def legDiag (dfac : Array α) (lmax : Nat) (sox2 : α) (P0 : Array (Array α)) : Array (Array α) := Id.run do
  let mut P := P0
  let mut ox2m : α := 1
  for m in [1:lmax + 1] do
    ox2m := ox2m * (-sox2)
    P := P.set! m ((P[m]!).set! m (ox2m * dfac[2 * m - 1]!))
  return P

/-- row l of the upward recursion: the inner loop of the second loop of `rsh` -/
def legRow (x : α) (l : Nat) (P0 : Array (Array α)) : Array (Array α) := Id.run do
  let mut P := P0
  let o : α := x * (((2 * l - 1 : Nat) : Nat) : α)
  for m in [0:l] do
    let v := o * (P[l - 1]!)[m]! - (((l + m - 1 : Nat) : Nat) : α) * (P[l - 2]!)[m]!
    P := P.set! l ((P[l]!).set! m (v / (((l - m : Nat) : Nat) : α)))
  return P

/-- the upward recursion in l: second loop of `rsh` -/
def legRec (lmax : Nat) (x : α) (P0 : Array (Array α)) : Array (Array α) := Id.run do
  let mut P := P0
  for l in [2:lmax + 1] do
    P := legRow x l P
    P := P.set! (l - 1) ((P[l - 1]!).set! l 0)
  return P

/-- the associated Legendre table P(l, m) of `rsh` -/
def legP (dfac : Array α) (lmax : Nat) (x : α) : Array (Array α) :=
  let x2 := x * x
  let P : Array (Array α) := Array.replicate (lmax + 1) (Array.replicate (lmax + 1) 0)
  let P := P.set! 0 ((P[0]!).set! 0 1)
  let t : α := 1 - x2
  let sox2 := Flt.sqrt (if (0 : α) < t then t else 0)
  let P := legDiag dfac lmax sox2 P
  let P := P.set! 1 ((P[1]!).set! 0 x)
  let P := P.set! 0 ((P[0]!).set! 1 0)
  legRec lmax x P

/-- one output row of `rsh` -/
def rshRow (fac : Array α) (P : Array (Array α)) (phi : α) (l : Nat) (row0 : Array α) : Array α := Id.run do
  let osq4pi : α := 1 / Flt.sqrt (((4 : Nat) : α) * Flt.pi)
  let mut row := row0
  row := row.set! l (osq4pi * Flt.sqrt (((2 : Nat) : α) * (l : α) + 1) * (P[l]!)[0]!)
  let mut sign : Int := -1
  for m in [1:l + 1] do
    let o : α := (((2 : Nat) : α) * (l : α) + 1) * fac[l - m]! / fac[l + m]!
    let o : α := ((sign : Int) : α) * osq4pi * Flt.sqrt (((2 : Nat) : α) * o) * (P[l]!)[m]!
    row := row.set! (l + m) (o * Flt.cos ((m : α) * phi))
    row := row.set! (l - m) (o * Flt.sin ((m : α) * phi))
    sign := -sign
  return row

/-- the output loop of `rsh` -/
def rshOut (fac : Array α) (lmax : Nat) (P : Array (Array α)) (phi : α) (out0 : Array (Array α)) : Array (Array α) := Id.run do
  let mut out := out0
  for l in [0:lmax + 1] do
    out := out.set! l (rshRow fac P phi l out[l]!)
  return out

theorem rsh_eq (fac dfac : Array α) (lmax : Nat) (x phi : α) :
    rsh fac dfac lmax x phi =
      if lmax > 0 then
        rshOut fac lmax (legP dfac lmax x) phi (Array.replicate (lmax + 1) (Array.replicate (2 * lmax + 1) 0))
      else
        (Array.replicate (lmax + 1) (Array.replicate (2 * lmax + 1) (0 : α))).set! 0
          (((Array.replicate (lmax + 1) (Array.replicate (2 * lmax + 1) (0 : α)))[0]!).set! 0 (1 / Flt.sqrt (((4 : Nat) : α) * Flt.pi))) := by
  rfl
end RshDefs

section RshRel
/- inside this section `a[i]!` on real arrays uses the same `Inhabited ℝ` instance as the model code specialised to ℝ -/
attribute [local instance 2000] Quad.instInhabitedOfNum

theorem default_real : (default : ℝ) = 0 := rfl

theorem foldl_rel {σ τ ι : Type} (R : σ → τ → Prop) (f : σ → ι → σ) (g : τ → ι → τ) (l : List ι) (s : σ) (t : τ)
    (h0 : R s t) (hstep : ∀ i ∈ l, ∀ s t, R s t → R (f s i) (g t i)) : R (l.foldl f s) (l.foldl g t) := by
  induction l generalizing s t with
  | nil => exact h0
  | cons x l ih =>
    simp only [List.foldl_cons]
    exact ih _ _ (hstep x List.mem_cons_self s t h0) (fun i hi => hstep i (List.mem_cons_of_mem _ hi))

/-- two arrays of the same size whose entries at every index i (outside the arrays both read `default`) are related
by `R i` -/
def RelA {β : Type} [Inhabited β] (R : ℕ → β → β → Prop) (a' a : Array β) : Prop :=
  a'.size = a.size ∧ ∀ i, R i a'[i]! a[i]!

theorem RelA.set {β : Type} [Inhabited β] {R : ℕ → β → β → Prop} {a' a : Array β} (h : RelA R a' a) (i : ℕ)
    {v' v : β} (hv : R i v' v) : RelA R (a'.setIfInBounds i v') (a.setIfInBounds i v) := by
  refine ⟨by simp [h.1], fun j => ?_⟩
  rw [ArrayLemmas.getBang_set, ArrayLemmas.getBang_set, h.1]
  split_ifs with hc
  · exact hc.1 ▸ hv
  · exact h.2 j

theorem RelA.replicate {β : Type} [Inhabited β] {R : ℕ → β → β → Prop} (n : ℕ) {v : β} (hv : ∀ i, R i v v)
    (hd : ∀ i, R i default default) : RelA R (Array.replicate n v) (Array.replicate n v) := by
  refine ⟨rfl, fun i => ?_⟩
  by_cases h : i < n
  · rw [getElem!_pos _ _ (by simpa using h), Array.getElem_replicate]
    exact hv i
  · rw [getElem!_neg _ _ (by simpa using h)]
    exact hd i

def Rel1 (w : ℕ → ℝ) : Array ℝ → Array ℝ → Prop := RelA fun m v' v => v' = w m * v

def Rel2 (w : ℕ → ℕ → ℝ) : Array (Array ℝ) → Array (Array ℝ) → Prop := RelA fun l => Rel1 (w l)

theorem Rel2_set2 {w : ℕ → ℕ → ℝ} {P' P : Array (Array ℝ)} (h : Rel2 w P' P) (i j : ℕ) {v' v : ℝ}
    (hv : v' = w i j * v) :
    Rel2 w (P'.setIfInBounds i (P'[i]!.setIfInBounds j v')) (P.setIfInBounds i (P[i]!.setIfInBounds j v)) :=
  RelA.set h i (RelA.set (h.2 i) j hv)

theorem Rel2_get {w : ℕ → ℕ → ℝ} {P' P : Array (Array ℝ)} (h : Rel2 w P' P) (i j : ℕ) :
    (P'[i]!)[j]! = w i j * (P[i]!)[j]! := (h.2 i).2 j

theorem Rel2_replicate (w : ℕ → ℕ → ℝ) (n k : ℕ) :
    Rel2 w (Array.replicate n (Array.replicate k 0)) (Array.replicate n (Array.replicate k 0)) :=
  RelA.replicate n (fun _ => RelA.replicate k (fun _ => (mul_zero _).symm) fun _ => (mul_zero _).symm)
    fun _ => ⟨rfl, fun _ => (mul_zero _).symm⟩

/-- what makes the Legendre table at x' entry by entry `w` times the one at x: the same sin θ, and a weight that is
compatible with the start values and with the recursion -/
structure LegWeight (w : ℕ → ℕ → ℝ) (x x' : ℝ) : Prop where
  sq : x' * x' = x * x
  w00 : w 0 0 = 1
  w10 : x' = w 1 0 * x
  /-- the diagonal P_m^m ∝ (sin θ)^m is the same in both tables: either the weight is 1 there or sin θ = 0 -/
  diag : ∀ m, 1 ≤ m → w m m = 1 ∨ 1 - x * x ≤ 0
  rec1 : ∀ l m, x' * w (l + 1) m = w (l + 2) m * x
  rec2 : ∀ l m, w l m = w (l + 2) m

theorem legDiag_rel {w : ℕ → ℕ → ℝ} (dfac : Array ℝ) (lmax : ℕ) (t : ℝ) (hd : ∀ m, 1 ≤ m → w m m = 1 ∨ t = 0)
    {P' P : Array (Array ℝ)} (hP : Rel2 w P' P) : Rel2 w (legDiag dfac lmax t P') (legDiag dfac lmax t P) := by
  unfold legDiag
  simp only [Array.set!_eq_setIfInBounds, Std.Legacy.Range.forIn_eq_forIn_range', Std.Legacy.Range.size,
    add_tsub_cancel_right, Nat.div_one, List.forIn_pure_yield_eq_foldl, bind_pure_comp, map_pure, Id.run_pure]
  -- the loop state is (table, (−t)^m); the power is the same in both runs
  refine (foldl_rel (fun (b' b : Array (Array ℝ) × ℝ) => Rel2 w b'.1 b.1 ∧ b'.2 = b.2) _ _ _ _ _ ?_ ?_).1
  · exact ⟨hP, rfl⟩
  · rintro m hm b' b ⟨h1, h2⟩
    refine ⟨Rel2_set2 h1 m m ?_, by rw [h2]⟩
    rcases hd m (List.mem_range'_1.mp hm).1 with h | h
    · rw [h2, h, one_mul]
    · simp only [h, neg_zero, mul_zero, zero_mul]

theorem legRow_rel {w : ℕ → ℕ → ℝ} {x x' : ℝ} (l : ℕ) (h1 : ∀ m, x' * w (l - 1) m = w l m * x)
    (h2 : ∀ m, w (l - 2) m = w l m) {P' P : Array (Array ℝ)} (hP : Rel2 w P' P) :
    Rel2 w (legRow x' l P') (legRow x l P) := by
  unfold legRow
  simp only [Array.set!_eq_setIfInBounds, Std.Legacy.Range.forIn_eq_forIn_range', Std.Legacy.Range.size,
    Nat.sub_zero, add_tsub_cancel_right, Nat.div_one, List.forIn_pure_yield_eq_foldl]
  refine foldl_rel (Rel2 w) _ _ _ _ _ hP fun m _ Q' Q hQ => Rel2_set2 hQ l m ?_
  rw [Rel2_get hQ (l - 1) m, Rel2_get hQ (l - 2) m, h2 m]
  linear_combination (((2 * l - 1 : ℕ) : ℝ) * (Q[l - 1]!)[m]! / ((l - m : ℕ) : ℝ)) * h1 m

theorem legRec_rel {w : ℕ → ℕ → ℝ} {x x' : ℝ} (lmax : ℕ) (h1 : ∀ l m, x' * w (l + 1) m = w (l + 2) m * x)
    (h2 : ∀ l m, w l m = w (l + 2) m) {P' P : Array (Array ℝ)} (hP : Rel2 w P' P) :
    Rel2 w (legRec lmax x' P') (legRec lmax x P) := by
  unfold legRec
  simp only [Array.set!_eq_setIfInBounds, Std.Legacy.Range.forIn_eq_forIn_range', Std.Legacy.Range.size,
    add_tsub_cancel_right, Nat.div_one, List.forIn_pure_yield_eq_foldl]
  refine foldl_rel (Rel2 w) _ _ _ _ _ hP fun l hl Q' Q hQ => ?_
  obtain ⟨k, rfl⟩ := Nat.exists_eq_add_of_le' (List.mem_range'_1.mp hl).1
  exact Rel2_set2 (legRow_rel (k + 2) (h1 k) (h2 k) hQ) (k + 1) (k + 2) (by rw [mul_zero])

theorem legP_rel_gen {w : ℕ → ℕ → ℝ} {x x' : ℝ} (hw : LegWeight w x x') (dfac : Array ℝ) (lmax : ℕ) :
    Rel2 w (legP dfac lmax x') (legP dfac lmax x) := by
  unfold legP
  simp only [hw.sq, Array.set!_eq_setIfInBounds]
  refine legRec_rel lmax hw.rec1 hw.rec2 (Rel2_set2 (Rel2_set2 (legDiag_rel dfac lmax _ ?_ ?_) 1 0 hw.w10) 0 1 ?_)
  · exact fun m hm => (hw.diag m hm).imp_right fun h => by rw [if_neg (not_lt.mpr h), flt_sqrt, Real.sqrt_zero]
  · exact Rel2_set2 (Rel2_replicate _ _ _) 0 0 (by rw [hw.w00, one_mul])
  · rw [mul_zero]

theorem legP_rel (dfac : Array ℝ) (lmax : ℕ) (s x : ℝ) (hs : s * s = 1) :
    Rel2 (fun l m => s ^ (l + m)) (legP dfac lmax (s * x)) (legP dfac lmax x) :=
  legP_rel_gen (w := fun l m => s ^ (l + m)) (x' := s * x)
    { sq := by linear_combination (x * x) * hs
      w00 := pow_zero s
      w10 := by rw [pow_one]
      diag := fun m _ => Or.inl (by rw [← two_mul, pow_mul, pow_two, hs, one_pow])
      rec1 := fun l m => by ring
      rec2 := fun l m => by linear_combination (-s ^ (l + m)) * hs } dfac lmax

/-- at the poles (x² ≥ 1, so that sqrt(max(0, 1 − x²)) = 0) the table is its own multiple by the indicator of m = 0 -/
theorem legP_pole (dfac : Array ℝ) (lmax : ℕ) (x : ℝ) (hx : 1 - x * x ≤ 0) (l a : ℕ) (ha : 1 ≤ a) :
    ((legP dfac lmax x)[l]!)[a]! = 0 := by
  have h := Rel2_get (legP_rel_gen (w := fun _ m => if m = 0 then 1 else 0) (x := x) (x' := x)
    { sq := rfl
      w00 := rfl
      w10 := (one_mul x).symm
      diag := fun _ _ => Or.inr hx
      rec1 := fun _ _ => mul_comm _ _
      rec2 := fun _ _ => rfl } dfac lmax) l a
  rw [if_neg (by omega), zero_mul] at h
  exact h

theorem flt_cos (x : ℝ) : Flt.cos x = Real.cos x := rfl

theorem flt_sin (x : ℝ) : Flt.sin x = Real.sin x := rfl

theorem mul_rel {o p' t' w p t : ℝ} (h : p' * t' = w * (p * t)) : o * p' * t' = w * (o * p * t) := by
  linear_combination o * h

theorem rshRow_rel (fac : Array ℝ) (phi phi' : ℝ) (P' P : Array (Array ℝ)) (l : ℕ) (wr : ℕ → ℝ)
    (h0 : (P'[l]!)[0]! = wr l * (P[l]!)[0]!)
    (hcs : ∀ a : ℕ, 1 ≤ a → a ≤ l →
      (P'[l]!)[a]! * Real.cos (a * phi') = wr (l + a) * ((P[l]!)[a]! * Real.cos (a * phi)))
    (hsn : ∀ a : ℕ, 1 ≤ a → a ≤ l →
      (P'[l]!)[a]! * Real.sin (a * phi') = wr (l - a) * ((P[l]!)[a]! * Real.sin (a * phi)))
    (row' row : Array ℝ) (hrow : Rel1 wr row' row) :
    Rel1 wr (rshRow fac P' phi' l row') (rshRow fac P phi l row) := by
  unfold rshRow
  simp only [Array.set!_eq_setIfInBounds, Std.Legacy.Range.forIn_eq_forIn_range', Std.Legacy.Range.size,
    add_tsub_cancel_right, Nat.div_one, List.forIn_pure_yield_eq_foldl, bind_pure_comp, map_pure, Id.run_pure,
    flt_cos, flt_sin]
  -- the loop state is (row, sign); the sign is the same in both runs
  refine (foldl_rel (fun (b' b : Array ℝ × ℤ) => Rel1 wr b'.1 b.1 ∧ b'.2 = b.2) _ _ _ _ _ ?_ ?_).1
  · exact ⟨RelA.set hrow l (by rw [h0, mul_left_comm]), rfl⟩
  · rintro a ha b' b ⟨h1, h2⟩
    obtain ⟨ha1, ha2⟩ := List.mem_range'_1.mp ha
    rw [Nat.lt_one_add_iff] at ha2
    rw [h2]
    exact ⟨RelA.set (RelA.set h1 (l + a) (mul_rel (hcs a ha1 ha2))) (l - a) (mul_rel (hsn a ha1 ha2)), rfl⟩

theorem rsh_rel_gen (fac dfac : Array ℝ) (lmax : ℕ) (x x' phi phi' : ℝ) (w : ℕ → ℕ → ℝ) (hw0 : w 0 0 = 1)
    (h0 : ∀ l, ((legP dfac lmax x')[l]!)[0]! = w l l * ((legP dfac lmax x)[l]!)[0]!)
    (hcs : ∀ l a : ℕ, 1 ≤ a → a ≤ l → ((legP dfac lmax x')[l]!)[a]! * Real.cos (a * phi')
      = w l (l + a) * (((legP dfac lmax x)[l]!)[a]! * Real.cos (a * phi)))
    (hsn : ∀ l a : ℕ, 1 ≤ a → a ≤ l → ((legP dfac lmax x')[l]!)[a]! * Real.sin (a * phi')
      = w l (l - a) * (((legP dfac lmax x)[l]!)[a]! * Real.sin (a * phi))) :
    Rel2 w (rsh fac dfac lmax x' phi') (rsh fac dfac lmax x phi) := by
  rw [rsh_eq, rsh_eq]
  split_ifs with h
  · unfold rshOut
    simp only [Array.set!_eq_setIfInBounds, Std.Legacy.Range.forIn_eq_forIn_range', Std.Legacy.Range.size,
      add_tsub_cancel_right, Nat.div_one, List.forIn_pure_yield_eq_foldl]
    refine foldl_rel (Rel2 w) _ _ _ _ _ (Rel2_replicate _ _ _) fun l _ o' o ho => ?_
    exact RelA.set ho l (rshRow_rel fac phi phi' _ _ l (w l) (h0 l) (hcs l) (hsn l) _ _ (ho.2 l))
  · exact Rel2_set2 (Rel2_replicate _ _ _) 0 0 (by rw [hw0, one_mul])

theorem get2_eq_bang (S : Array (Array ℝ)) (l m : ℕ) : get2 S l m = (S[l]!)[m]! := by
  unfold get2
  rw [Array.getElem!_eq_getD, Array.getElem!_eq_getD]
  rfl

theorem Rel2_get2 {w : ℕ → ℕ → ℝ} {P' P : Array (Array ℝ)} (h : Rel2 w P' P) (l m : ℕ) :
    get2 P' l m = w l m * get2 P l m := by
  rw [get2_eq_bang, get2_eq_bang]
  exact Rel2_get h l m

theorem trig_mult (a b phi phi' : ℝ) (ha : a * a = 1) (hb : b * b = 1)
    (h1 : Real.cos phi' = a * Real.cos phi) (h2 : Real.sin phi' = b * Real.sin phi) (m : ℕ) :
    Real.cos (m * phi') = a ^ m * Real.cos (m * phi) ∧ Real.sin (m * phi') = a ^ (m + 1) * b * Real.sin (m * phi) := by
  induction m with
  | zero => simp
  | succ m ih =>
    obtain ⟨ic, is⟩ := ih
    have e : ∀ t : ℝ, ((m + 1 : ℕ) : ℝ) * t = m * t + t := fun t => by
      push_cast
      ring
    rw [e, e, Real.cos_add, Real.sin_add, Real.cos_add, Real.sin_add, ic, is, h1, h2]
    constructor
    · linear_combination (-(a ^ (m + 1) * Real.sin (m * phi) * Real.sin phi)) * hb
    · linear_combination (-(a ^ m * b * Real.cos (m * phi) * Real.sin phi)) * ha

/-- the weight of entry (l, idx) of the harmonics table when cos θ, cos φ, sin φ change by signs s, a, b -/
def wOut (s a b : ℝ) (l idx : ℕ) : ℝ := s ^ (l + muOf l idx) * a ^ (muOf l idx + cOf l idx) * b ^ cOf l idx

theorem wOut_add (s a b : ℝ) (l n : ℕ) : wOut s a b l (l + n) = s ^ (l + n) * a ^ n := by
  unfold wOut
  rcases muOf_cOf_cases l (l + n) with ⟨-, e1, e2⟩ | ⟨h, -, -⟩
  · rw [e1, e2, Nat.add_sub_cancel_left, add_zero, pow_zero, mul_one]
  · omega

theorem wOut_self (s a b : ℝ) (l : ℕ) : wOut s a b l l = s ^ l := by
  have h := wOut_add s a b l 0
  rwa [add_zero, pow_zero, mul_one] at h

theorem wOut_sub (s a b : ℝ) {l n : ℕ} (h1 : 1 ≤ n) (h2 : n ≤ l) : wOut s a b l (l - n) = s ^ (l + n) * a ^ (n + 1) * b := by
  unfold wOut
  rcases muOf_cOf_cases l (l - n) with ⟨h, -, -⟩ | ⟨-, e1, e2⟩
  · omega
  · rw [e1, e2, Nat.sub_sub_self h2, pow_one]

/-- at a pole (x² ≥ 1) the entries with mu ≠ 0 vanish, and nothing is asked of the two azimuths -/
theorem rsh_signs (fac dfac : Array ℝ) (lmax : ℕ) (s a b x phi phi' : ℝ) (hs : s * s = 1) (ha : a * a = 1) (hb : b * b = 1)
    (hφ : 1 - x * x ≤ 0 ∨ Real.cos phi' = a * Real.cos phi ∧ Real.sin phi' = b * Real.sin phi) :
    Rel2 (wOut s a b) (rsh fac dfac lmax (s * x) phi') (rsh fac dfac lmax x phi) := by
  have hP := legP_rel dfac lmax s x hs
  -- all the output loop uses of the azimuths, for a factor p that vanishes at the poles
  have ht : ∀ (n : ℕ) (p : ℝ), (1 - x * x ≤ 0 → p = 0) →
      p * Real.cos (n * phi') = a ^ n * (p * Real.cos (n * phi)) ∧
      p * Real.sin (n * phi') = a ^ (n + 1) * b * (p * Real.sin (n * phi)) := by
    intro n p hp
    rcases hφ with hx | ⟨h1, h2⟩
    · rw [hp hx]
      simp only [zero_mul, mul_zero, and_self]
    · obtain ⟨hc, hsn⟩ := trig_mult a b phi phi' ha hb h1 h2 n
      rw [hc, hsn]
      constructor <;> ring
  refine rsh_rel_gen fac dfac lmax x (s * x) phi phi' _ ?_ ?_ ?_ ?_
  · rw [wOut_self, pow_zero]
  · intro l
    rw [Rel2_get hP l 0, wOut_self, add_zero]
  · intro l n hn1 hn2
    rw [Rel2_get hP l n, wOut_add]
    linear_combination s ^ (l + n) * (ht n _ fun hx => legP_pole dfac lmax x hx l n hn1).1
  · intro l n hn1 hn2
    rw [Rel2_get hP l n, wOut_sub s a b hn1 hn2]
    linear_combination s ^ (l + n) * (ht n _ fun hx => legP_pole dfac lmax x hx l n hn1).2

theorem reflect3_signs (q : ℕ) : ∃ s a b : ℝ, s * s = 1 ∧ a * a = 1 ∧ b * b = 1 ∧
    (∀ A : ℝ × ℝ × ℝ, reflect3 q A = (a * A.1, b * A.2.1, s * A.2.2)) ∧ ∀ l m, wOut s a b l m = sigR q l m := by
  have hm : (-1 : ℝ) * -1 = 1 := by norm_num
  unfold reflect3 wOut sigR parR
  by_cases h0 : q = 0
  · refine ⟨1, -1, 1, one_mul 1, hm, one_mul 1, fun A => ?_, fun l m => ?_⟩
    · rw [if_pos h0, neg_one_mul, one_mul, one_mul]
    · rw [if_pos h0, one_pow, one_pow, one_mul, mul_one]
  · by_cases h1 : q = 1
    · refine ⟨1, 1, -1, one_mul 1, one_mul 1, hm, fun A => ?_, fun l m => ?_⟩
      · rw [if_neg h0, if_pos h1, neg_one_mul, one_mul, one_mul]
      · rw [if_neg h0, if_pos h1, one_pow, one_pow, one_mul, one_mul]
    · refine ⟨-1, 1, 1, hm, one_mul 1, one_mul 1, fun A => ?_, fun l m => ?_⟩
      · rw [if_neg h0, if_neg h1, neg_one_mul, one_mul, one_mul]
      · rw [if_neg h0, if_neg h1, one_pow, one_pow, mul_one, mul_one]
        -- idx = l ± |mu|
        refine neg_one_pow_congr ?_
        rcases muOf_cOf_cases l m with ⟨h, e, -⟩ | ⟨h, e, -⟩
        · omega
        · omega

/-- cos θ of the direction of `A` as `type2` forms it (`Am` = |A|) -/
noncomputable def dirX (A : ℝ × ℝ × ℝ) (Am : ℝ) : ℝ := if 0 < Am then A.2.2 / Am else 0
/-- the azimuth of the direction of `A` as `type2` forms it -/
noncomputable def dirPhi (A : ℝ × ℝ × ℝ) : ℝ := Flt.atan2 A.2.1 A.1

theorem dirPhi_eq (A : ℝ × ℝ × ℝ) : dirPhi A = Complex.arg ⟨A.1, A.2.1⟩ := rfl

theorem dirX_signs (x y s : ℝ) (A : ℝ × ℝ × ℝ) (Am : ℝ) : dirX (x, y, s * A.2.2) Am = s * dirX A Am := by
  unfold dirX
  split_ifs
  · rw [mul_div_assoc]
  · rw [mul_zero]

theorem norm_mk_signs {a b : ℝ} (ha : a * a = 1) (hb : b * b = 1) (x y : ℝ) :
    ‖(⟨a * x, b * y⟩ : ℂ)‖ = ‖(⟨x, y⟩ : ℂ)‖ := by
  rw [Complex.norm_def, Complex.norm_def, Complex.normSq_mk, Complex.normSq_mk]
  congr 1
  linear_combination x * x * ha + y * y * hb

theorem sin_dirPhi_signs {a b : ℝ} (ha : a * a = 1) (hb : b * b = 1) (A : ℝ × ℝ × ℝ) (z : ℝ) :
    Real.sin (dirPhi (a * A.1, b * A.2.1, z)) = b * Real.sin (dirPhi A) := by
  rw [dirPhi_eq, dirPhi_eq, Complex.sin_arg, Complex.sin_arg, norm_mk_signs ha hb, mul_div_assoc]

/-- the direction must not be a pole: there both azimuths are `arg 0 = 0` -/
theorem cos_dirPhi_signs {a b : ℝ} (ha : a * a = 1) (hb : b * b = 1) (A : ℝ × ℝ × ℝ) (z : ℝ)
    (hz : (⟨A.1, A.2.1⟩ : ℂ) ≠ 0) :
    Real.cos (dirPhi (a * A.1, b * A.2.1, z)) = a * Real.cos (dirPhi A) := by
  have hz' : (⟨a * A.1, b * A.2.1⟩ : ℂ) ≠ 0 := by
    rw [← norm_ne_zero_iff, norm_mk_signs ha hb, norm_ne_zero_iff]
    exact hz
  rw [dirPhi_eq, dirPhi_eq, Complex.cos_arg hz', Complex.cos_arg hz, norm_mk_signs ha hb, mul_div_assoc]

/-- **(hS) for the model's harmonics evaluator**: the table `type2` computes for the reflected centre difference is the
table for the original one with entry (l, m) multiplied by σ_q l m — all three reflections, all directions (at the
poles the entries whose sign would be −1 vanish) -/
theorem rsh_reflect_dir (fac dfac : Array ℝ) (lmax q : ℕ) (A : ℝ × ℝ × ℝ) (Am : ℝ) (hAm : 0 < Am)
    (hn : Am * Am = A.1 * A.1 + A.2.1 * A.2.1 + A.2.2 * A.2.2) (l m : ℕ) :
    get2 (rsh fac dfac lmax (dirX (reflect3 q A) Am) (dirPhi (reflect3 q A))) l m
      = sigR q l m * get2 (rsh fac dfac lmax (dirX A Am) (dirPhi A)) l m := by
  obtain ⟨s, a, b, hs, ha, hb, hA, hw⟩ := reflect3_signs q
  rw [hA, dirX_signs, ← hw]
  refine Rel2_get2 (rsh_signs fac dfac lmax s a b _ _ _ hs ha hb ?_) l m
  by_cases hz : (⟨A.1, A.2.1⟩ : ℂ) = 0
  · left
    have hx : A.1 = 0 := by simpa using congrArg Complex.re hz
    have hy : A.2.1 = 0 := by simpa using congrArg Complex.im hz
    have hzz : A.2.2 * A.2.2 ≠ 0 := by
      rw [hx, hy, mul_zero, zero_add, zero_add] at hn
      rw [← hn]
      exact (mul_pos hAm hAm).ne'
    unfold dirX
    rw [if_pos hAm, div_mul_div_comm, hn, hx, hy, mul_zero, zero_add, zero_add, div_self hzz, sub_self]
  · exact Or.inr ⟨cos_dirPhi_signs ha hb A _ hz, sin_dirPhi_signs ha hb A _⟩

end RshRel

end Stage4Rsh

section Stage4
open Ecpint.Angular Ecpint.ShellPair

/-- **type 2, general position, the model's own binomial tables AND harmonics evaluator** -/
theorem rolledUp_reflect_rsh (E : Engine ℝ) (nf maxLam q lam LA LB : ℕ) (hnf : 2 * maxLam < nf)
    (hE : E.omega = omegaModel nf maxLam) (radials : ℕ → ℕ → ℕ → ℝ) (A B : ℝ × ℝ × ℝ) (Am Bm : ℝ)
    (hAm : 0 < Am) (hnA : Am * Am = A.1 * A.1 + A.2.1 * A.2.1 + A.2.2 * A.2.2)
    (hBm : 0 < Bm) (hnB : Bm * Bm = B.1 * B.1 + B.2.1 * B.2.1 + B.2.2 * B.2.2)
    (hla : lam + LA ≤ maxLam) (hlb : lam + LB ≤ maxLam) (i : ℕ)
    (hi : i < (cartList LA).length * (cartList LB).length) (mi : ℕ) :
    ((rolledUp E lam LA LB radials (cAt (makeCTab E (fun x n => x ^ n) LA (reflect3 q A)) LA)
        (cAt (makeCTab E (fun x n => x ^ n) LB (reflect3 q B)) LB)
        (rsh E.fac E.dfac (lam + LA) (dirX (reflect3 q A) Am) (dirPhi (reflect3 q A)))
        (rsh E.fac E.dfac (lam + LB) (dirX (reflect3 q B) Bm) (dirPhi (reflect3 q B))))[i]!).getD mi 0
      = (-1) ^ (ecomp q ((cartList LA).toArray[i / (cartList LB).length]!)
                + ecomp q ((cartList LB).toArray[i % (cartList LB).length]!))
        * ((rolledUp E lam LA LB radials (cAt (makeCTab E (fun x n => x ^ n) LA A) LA)
            (cAt (makeCTab E (fun x n => x ^ n) LB B) LB)
            (rsh E.fac E.dfac (lam + LA) (dirX A Am) (dirPhi A))
            (rsh E.fac E.dfac (lam + LB) (dirX B Bm) (dirPhi B)))[i]!).getD mi 0 :=
  rolledUp_reflect_of E nf maxLam q lam LA LB hnf hE radials A B
    (fun l m _ _ => rsh_reflect_dir E.fac E.dfac (lam + LA) q A Am hAm hnA l m)
    (fun l m _ _ => rsh_reflect_dir E.fac E.dfac (lam + LB) q B Bm hBm hnB l m) hla hlb i hi mi

/-- **type 2, shell A on the ECP centre, the model's own binomial table AND harmonics evaluator** -/
theorem rolledUpSpecial_reflect_rsh (E : Engine ℝ) (nf maxLam q lam LA LB : ℕ) (hnf : 2 * maxLam < nf)
    (hE : E.omega = omegaModel nf maxLam) (radials : ℕ → ℕ → ℕ → ℝ) (B : ℝ × ℝ × ℝ) (Bm : ℝ)
    (hBm : 0 < Bm) (hnB : Bm * Bm = B.1 * B.1 + B.2.1 * B.2.1 + B.2.2 * B.2.2)
    (hla : lam + LA ≤ maxLam) (hlb : lam + LB ≤ maxLam) (i : ℕ)
    (hi : i < (cartList LA).length * (cartList LB).length) (mi : ℕ) :
    ((rolledUpSpecial E lam LA LB radials (cAt (makeCTab E (fun x n => x ^ n) LB (reflect3 q B)) LB)
        (rsh E.fac E.dfac (lam + LB) (dirX (reflect3 q B) Bm) (dirPhi (reflect3 q B))))[i]!).getD mi 0
      = (-1) ^ (ecomp q ((cartList LA).toArray[i / (cartList LB).length]!)
                + ecomp q ((cartList LB).toArray[i % (cartList LB).length]!))
        * ((rolledUpSpecial E lam LA LB radials (cAt (makeCTab E (fun x n => x ^ n) LB B) LB)
            (rsh E.fac E.dfac (lam + LB) (dirX B Bm) (dirPhi B)))[i]!).getD mi 0 :=
  rolledUpSpecial_reflect_of E nf maxLam q lam LA LB hnf hE radials B
    (fun l m _ _ => rsh_reflect_dir E.fac E.dfac (lam + LB) q B Bm hBm hnB l m) hla hlb i hi mi

end Stage4

end Ecpint.C08b
