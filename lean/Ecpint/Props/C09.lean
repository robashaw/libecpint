/- C09 — the generated (unrolled) classes are a faithful translation of the generic rolled-up contraction.
   Definitions: Ecpint/Model/Contraction.lean (the same functions the pipeline model runs at Float). -/
import Ecpint.Props.C07
import Ecpint.Lemmas.C09
import Ecpint.Lemmas.FoldSum
import Mathlib.Tactic.Ring
namespace Ecpint.C09
open Ecpint.Contraction Ecpint.ContractionLemmas Ecpint.C09Lemmas Ecpint.C07

variable {K : Type} [CommSemiring K]

theorem evalTerms_eq (nA nB nmu : Nat) (ts : List (UTerm K)) (CA CB : Nat → Nat → Nat → Nat → K)
    (radials : Nat → Nat → Nat → K) (SA SB : Array (Array K)) :
    evalTerms nA nB nmu ts.toArray CA CB radials SA SB
      = (Array.range (nA * nB * nmu)).map fun i =>
          fsum (fun t => decide ((t.na * nB + t.nb) * nmu + t.mu = i)) (fun t => t.value CA CB radials SA SB) ts := by
  unfold evalTerms
  rw [List.foldl_toArray' (h := rfl)]
  -- every line adds its value at its address, and nothing elsewhere
  simp only [setIfInBounds_getD_add, foldl_mapIdx_add, replicate_mapIdx_add]
  simp only [fsum, sum_filter_map, decide_eq_true_eq]

/-- the order of the generated lines does not matter -/
theorem evalTerms_perm (nA nB nmu : Nat) (ts ts' : List (UTerm K)) (h : ts.Perm ts') (CA CB : Nat → Nat → Nat → Nat → K)
    (radials : Nat → Nat → Nat → K) (SA SB : Array (Array K)) :
    evalTerms nA nB nmu ts.toArray CA CB radials SA SB = evalTerms nA nB nmu ts'.toArray CA CB radials SA SB := by
  rw [evalTerms_eq, evalTerms_eq]
  exact range_map_congr fun i _ => ((h.filter _).map _).sum_eq

/-- lines whose coefficient is zero (the generator prints them as `0 * …`) can be dropped -/
theorem evalTerms_drop_zero [DecidableEq K] (nA nB nmu : Nat) (ts : List (UTerm K)) (CA CB : Nat → Nat → Nat → Nat → K)
    (radials : Nat → Nat → Nat → K) (SA SB : Array (Array K)) :
    evalTerms nA nB nmu (ts.filter fun t => decide (t.coef ≠ 0)).toArray CA CB radials SA SB
      = evalTerms nA nB nmu ts.toArray CA CB radials SA SB := by
  rw [evalTerms_eq, evalTerms_eq]
  refine range_map_congr fun i _ => fsum_filter_drop _ _ _ _ (fun t ht => ?_)
  have h0 : t.coef = 0 := by simpa using ht
  simp only [UTerm.value, h0, zero_mul]

theorem wContr_eq_sum (omega : Nat → Nat → Nat → Nat → Nat → Nat → Nat → K) (lam : Nat) (S : Array (Array K))
    (a : Nat × Nat × Nat) (lam1 mi : Nat) :
    wContr omega lam S a lam1 mi
      = ((List.range (2 * lam1 + 1)).map fun m1 => get2 S lam1 m1 * omega a.1 a.2.1 a.2.2 lam mi lam1 m1).sum := by
  rw [wContr, FoldSum.foldl_add_eq_sum, zero_add]

section Unroll
variable (omega : Nat → Nat → Nat → Nat → Nat → Nat → Nat → K) (prefac : K)
  (kept : Nat × Nat × Nat → Nat × Nat × Nat → Nat → Nat → Bool) (lam : Nat)

/-- the lines `unroll` emits for one Cartesian pair (ca, cb) at position (na, nb) -/
def unrollBlock (ca cb : Nat × Nat × Nat) (na nb : Nat) : List (UTerm K) :=
  (subIdx ca).flatMap fun a =>
    (subIdx cb).flatMap fun b =>
      (List.range (lam + tsum a + 1)).flatMap fun lam1 =>
        (parityRange (lam + tsum b) (lam1 + (tsum a + tsum b))).flatMap fun lam2 =>
          if kept a b lam1 lam2 then
            (List.range (2 * lam + 1)).flatMap fun mi =>
              (List.range (2 * lam1 + 1)).flatMap fun m1 =>
                (List.range (2 * lam2 + 1)).map fun m2 =>
                  ({ na := na, nb := nb, mu := mi,
                     coef := prefac * omega a.1 a.2.1 a.2.2 lam mi lam1 m1 * omega b.1 b.2.1 b.2.2 lam mi lam2 m2,
                     ca := a, cb := b, rad := (tsum a + tsum b, lam1, lam2), sa := (lam1, m1), sb := (lam2, m2) } : UTerm K)
          else []

theorem unroll_eq (LA LB : Nat) :
    unroll omega prefac kept lam LA LB
      = (cartList LA).zipIdx.flatMap fun p => (cartList LB).zipIdx.flatMap fun q =>
          unrollBlock omega prefac kept lam p.1 q.1 p.2 q.2 := rfl

/-- explicit-sum form of one entry of the unrolled evaluation (no accumulator, no arrays, no addresses) -/
def unrollSum (radials : Nat → Nat → Nat → K) (CAna CBnb : Nat → Nat → Nat → K) (SA SB : Array (Array K))
    (ca cb : Nat × Nat × Nat) (mi : Nat) : K :=
  ((subIdx ca).map fun a => ((subIdx cb).map fun b =>
    ((List.range (lam + tsum a + 1)).map fun lam1 =>
      ((parityRange (lam + tsum b) (lam1 + (tsum a + tsum b))).map fun lam2 =>
        if kept a b lam1 lam2 then
          ((List.range (2 * lam1 + 1)).map fun m1 => ((List.range (2 * lam2 + 1)).map fun m2 =>
            prefac * omega a.1 a.2.1 a.2.2 lam mi lam1 m1 * omega b.1 b.2.1 b.2.2 lam mi lam2 m2
              * CAna a.1 a.2.1 a.2.2 * CBnb b.1 b.2.1 b.2.2 * radials (tsum a + tsum b) lam1 lam2
              * get2 SA lam1 m1 * get2 SB lam2 m2).sum).sum
        else 0).sum).sum).sum).sum

theorem fsum_unrollBlock_ne (g : UTerm K → K) (ca cb : Nat × Nat × Nat) (nB na nb mi na' nb' : Nat)
    (hnb : nb < nB) (hnb' : nb' < nB) (hmi : mi < 2 * lam + 1) (hne : ¬ (na' = na ∧ nb' = nb)) :
    fsum (fun t : UTerm K => decide ((t.na * nB + t.nb) * (2 * lam + 1) + t.mu = (na * nB + nb) * (2 * lam + 1) + mi)) g
      (unrollBlock omega prefac kept lam ca cb na' nb') = 0 := by
  refine fsum_eq_zero _ _ _ fun t ht => decide_eq_false fun h => ?_
  -- a line of the block carries the position (na', nb') and some mi' ≤ 2 lam
  simp only [unrollBlock, List.mem_flatMap, List.mem_ite_nil_right, List.mem_map, List.mem_range] at ht
  obtain ⟨a, _, b, _, lam1, _, lam2, _, _, mi', hmi', m1, _, m2, _, rfl⟩ := ht
  exact hne (MixedRadix.digit_inj hnb' hnb (MixedRadix.digit_inj hmi' hmi h).1)

theorem fsum_unrollBlock_eq (CA CB : Nat → Nat → Nat → Nat → K) (radials : Nat → Nat → Nat → K) (SA SB : Array (Array K))
    (ca cb : Nat × Nat × Nat) (nB na nb mi : Nat) (hmi : mi < 2 * lam + 1) :
    fsum (fun t : UTerm K => decide ((t.na * nB + t.nb) * (2 * lam + 1) + t.mu = (na * nB + nb) * (2 * lam + 1) + mi))
        (fun t => t.value CA CB radials SA SB) (unrollBlock omega prefac kept lam ca cb na nb)
      = unrollSum omega prefac kept lam radials (CA na) (CB nb) SA SB ca cb mi := by
  unfold unrollBlock unrollSum
  -- the filtered sum goes through the loop nest down to the single lines
  simp only [fsum_flatMap, fsum_ite, fsum_map]
  refine sum_map_congr fun a _ => sum_map_congr fun b _ =>
    sum_map_congr fun lam1 _ => sum_map_congr fun lam2 _ => ?_
  split
  · -- of the lines for all mi' only those for mi' = mi address the entry
    rw [FoldSum.sum_range_single (2 * lam + 1) mi, if_pos hmi]
    · simp only [decide_true, if_true, UTerm.value]
    · intro mi' _ hne
      simp only [Nat.add_left_cancel_iff, hne, decide_false, Bool.false_eq_true, if_false, List.sum_map_zero]
  · rfl

theorem evalTerms_unroll_getD (LA LB : Nat) (CA CB : Nat → Nat → Nat → Nat → K) (radials : Nat → Nat → Nat → K)
    (SA SB : Array (Array K)) (na nb mi : Nat) (hna : na < (cartList LA).length) (hnb : nb < (cartList LB).length)
    (hmi : mi < 2 * lam + 1) :
    (evalTerms (cartList LA).length (cartList LB).length (2 * lam + 1) (unroll omega prefac kept lam LA LB).toArray
        CA CB radials SA SB).getD ((na * (cartList LB).length + nb) * (2 * lam + 1) + mi) 0
      = unrollSum omega prefac kept lam radials (CA na) (CB nb) SA SB
          ((cartList LA)[na]'hna) ((cartList LB)[nb]'hnb) mi := by
  rw [evalTerms_eq, getD_range_map _ _ _ (MixedRadix.digit_lt (MixedRadix.digit_lt hna hnb) hmi), unroll_eq, fsum_flatMap,
    sum_zipIdx_single _ na _ hna]
  · dsimp only
    rw [fsum_flatMap, sum_zipIdx_single _ nb _ hnb]
    · exact fsum_unrollBlock_eq omega prefac kept lam CA CB radials SA SB _ _ _ na nb mi hmi
    · intro q hq hne
      exact fsum_unrollBlock_ne omega prefac kept lam _ _ _ _ na nb mi na q.2 hnb (List.snd_lt_of_mem_zipIdx hq) hmi
        (fun h => hne h.2)
  · intro p _ hne
    rw [fsum_flatMap]
    refine sum_map_eq_zero (fun q hq => ?_)
    exact fsum_unrollBlock_ne omega prefac kept lam _ _ _ _ na nb mi p.2 q.2 hnb (List.snd_lt_of_mem_zipIdx hq) hmi
      (fun h => hne h.1)

theorem unrollSum_eq_rolledUpSum
    (hkept : ∀ a b lam1 lam2, kept a b lam1 lam2 = false → ∀ mi m1 m2,
      omega a.1 a.2.1 a.2.2 lam mi lam1 m1 * omega b.1 b.2.1 b.2.2 lam mi lam2 m2 = 0)
    (radials : Nat → Nat → Nat → K) (CAna CBnb : Nat → Nat → Nat → K) (SA SB : Array (Array K))
    (ca cb : Nat × Nat × Nat) (mi : Nat) :
    unrollSum omega prefac kept lam radials CAna CBnb SA SB ca cb mi
      = rolledUpSum omega (fun _ => true) prefac lam radials CAna CBnb SA SB ca cb mi := by
  unfold unrollSum rolledUpSum
  dsimp only
  simp only [if_true]
  refine sum_map_congr (fun a _ => sum_map_congr (fun b _ =>
    sum_map_congr (fun lam1 _ => sum_map_congr (fun lam2 _ => ?_))))
  rw [wContr_eq_sum, wContr_eq_sum, mul_sum_mul_sum]
  cases hk : kept a b lam1 lam2
  · simp only [Bool.false_eq_true, if_false]
    symm
    refine sum_map_eq_zero (fun m1 _ => sum_map_eq_zero (fun m2 _ => ?_))
    -- the two angular factors of a pruned combination, brought together
    rw [mul_assoc _ (get2 SA lam1 m1 * _), mul_mul_mul_comm (get2 SA lam1 m1), hkept a b lam1 lam2 hk mi m1 m2,
      mul_zero, mul_zero]
  · simp only [if_true]
    refine sum_map_congr (fun m1 _ => sum_map_congr (fun m2 _ => ?_))
    ring

end Unroll

/-- C09, main statement: in exact arithmetic, running the lines the generator emits for a class (its expansion `unroll`,
whatever test `kept` it used to prune (a, b, lam1, lam2) combinations, provided a pruned combination really has
vanishing angular factors) gives exactly what the generic `rolled_up` routine computes with the same tables when its
shortcut `|C| > 1e-15` is not taken (`keep = fun _ => true`), for every Cartesian pair and every mu -/
theorem unroll_correct (omega : Nat → Nat → Nat → Nat → Nat → Nat → Nat → K) (prefac : K)
    (kept : Nat × Nat × Nat → Nat × Nat × Nat → Nat → Nat → Bool) (lam LA LB : Nat)
    (hkept : ∀ a b lam1 lam2, kept a b lam1 lam2 = false → ∀ mi m1 m2,
      omega a.1 a.2.1 a.2.2 lam mi lam1 m1 * omega b.1 b.2.1 b.2.2 lam mi lam2 m2 = 0)
    (CA CB : Nat → Nat → Nat → Nat → K) (radials : Nat → Nat → Nat → K) (SA SB : Array (Array K))
    (na nb mi : Nat) (hna : na < (cartList LA).length) (hnb : nb < (cartList LB).length) (hmi : mi < 2 * lam + 1) :
    (evalTerms (cartList LA).length (cartList LB).length (2 * lam + 1) (unroll omega prefac kept lam LA LB).toArray
        CA CB radials SA SB).getD ((na * (cartList LB).length + nb) * (2 * lam + 1) + mi) 0
      = (rolledUpBlock omega (fun _ => true) prefac lam radials (CA na) (CB nb) SA SB
          ((cartList LA)[na]'hna) ((cartList LB)[nb]'hnb)).getD mi 0 := by
  rw [evalTerms_unroll_getD omega prefac kept lam LA LB CA CB radials SA SB na nb mi hna hnb hmi,
    rolledUpBlock_getD _ _ _ _ _ _ _ _ _ _ _ _ hmi]
  exact unrollSum_eq_rolledUpSum omega prefac kept lam hkept radials (CA na) (CB nb) SA SB _ _ mi

/-- the shortcut of the rolled-up routine only ever drops terms that carry the factor C it tested: with `keep` false
exactly where C = 0 the shortcut changes nothing -/
theorem rolledUp_shortcut_exact (omega : Nat → Nat → Nat → Nat → Nat → Nat → Nat → K) (keep : K → Bool) (prefac : K) (lam : Nat)
    (hkeep : ∀ C, keep C = false → C = 0)
    (radials : Nat → Nat → Nat → K) (CAna CBnb : Nat → Nat → Nat → K) (SA SB : Array (Array K)) (ca cb : Nat × Nat × Nat) :
    rolledUpBlock omega keep prefac lam radials CAna CBnb SA SB ca cb
      = rolledUpBlock omega (fun _ => true) prefac lam radials CAna CBnb SA SB ca cb := by
  rw [rolledUpBlock_eq, rolledUpBlock_eq]
  refine range_map_congr (fun mi _ => ?_)
  unfold rolledUpSum
  dsimp only
  refine sum_map_congr (fun a _ => sum_map_congr (fun b _ => ?_))
  cases hk : keep (CAna a.1 a.2.1 a.2.2 * CBnb b.1 b.2.1 b.2.2)
  · rw [hkeep _ hk]
    simp only [if_true, Bool.false_eq_true, if_false]
    symm
    refine sum_map_eq_zero (fun l1 _ => sum_map_eq_zero (fun l2 _ => ?_))
    simp only [mul_zero, zero_mul]
  · rfl

/-! ### non-vacuity: concrete instances over ℕ (lam = 1, LA = 1, LB = 0, entry (na, nb, mi) = (1, 0, 2)) -/
namespace Example

def om : Nat → Nat → Nat → Nat → Nat → Nat → Nat → Nat :=
  fun ax ay az lam mi lam1 m1 => ax + 2 * ay + az + lam + mi + lam1 * m1 + 1

def rad : Nat → Nat → Nat → Nat := fun N l1 l2 => N + 2 * l1 + l2 + 1

def cA : Nat → Nat → Nat → Nat → Nat := fun na k l m => na + k + l + 2 * m + 1

def cB : Nat → Nat → Nat → Nat → Nat := fun nb k l m => nb + k + 3 * l + m + 1

def sA : Array (Array Nat) := #[#[1], #[1, 2, 3], #[2, 0, 1, 1, 3]]

def sB : Array (Array Nat) := #[#[2], #[0, 1, 1]]
/-- a generator that prunes nothing -/
def kp : Nat × Nat × Nat → Nat × Nat × Nat → Nat → Nat → Bool := fun _ _ _ _ => true

theorem hkp : ∀ a b lam1 lam2, kp a b lam1 lam2 = false → ∀ mi m1 m2,
    om a.1 a.2.1 a.2.2 1 mi lam1 m1 * om b.1 b.2.1 b.2.2 1 mi lam2 m2 = 0 := by
  intro a b lam1 lam2 h
  simp [kp] at h

example :
    (evalTerms (cartList 1).length (cartList 0).length (2 * 1 + 1) (unroll om 2 kp 1 1 0).toArray
        cA cB rad sA sB).getD ((1 * (cartList 0).length + 0) * (2 * 1 + 1) + 2) 0
      = (rolledUpBlock om (fun _ => true) 2 1 rad (cA 1) (cB 0) sA sB
          ((cartList 1)[1]'(by decide)) ((cartList 0)[0]'(by decide))).getD 2 0 :=
  unroll_correct om 2 kp 1 1 0 hkp cA cB rad sA sB 1 0 2 (by decide) (by decide) (by decide)

example :
    (evalTerms (cartList 1).length (cartList 0).length (2 * 1 + 1) (unroll om 2 kp 1 1 0).toArray
        cA cB rad sA sB).getD ((1 * (cartList 0).length + 0) * (2 * 1 + 1) + 2) 0 = 50508 :=
  (evalTerms_unroll_getD om 2 kp 1 1 0 cA cB rad sA sB 1 0 2 (by decide) (by decide) (by decide)).trans (by decide +kernel)

example :
    (rolledUpBlock om (fun _ => true) 2 1 rad (cA 1) (cB 0) sA sB
        ((cartList 1)[1]'(by decide)) ((cartList 0)[0]'(by decide))).getD 2 0 = 50508 :=
  (rolledUpBlock_getD om (fun _ => true) 2 1 rad (cA 1) (cB 0) sA sB _ _ 2 (by decide)).trans (by decide +kernel)

/-- a second instance in which the generator really prunes: the angular factor vanishes for lam1 = 1 and the
generator drops exactly these combinations -/
def om2 : Nat → Nat → Nat → Nat → Nat → Nat → Nat → Nat :=
  fun ax ay az lam mi lam1 m1 => if lam1 = 1 then 0 else ax + 2 * ay + az + lam + mi + lam1 * m1 + 1

def kp2 : Nat × Nat × Nat → Nat × Nat × Nat → Nat → Nat → Bool := fun _ _ lam1 _ => decide (lam1 ≠ 1)

theorem hkp2 : ∀ a b lam1 lam2, kp2 a b lam1 lam2 = false → ∀ mi m1 m2,
    om2 a.1 a.2.1 a.2.2 1 mi lam1 m1 * om2 b.1 b.2.1 b.2.2 1 mi lam2 m2 = 0 := by
  intro a b lam1 lam2 h mi m1 m2
  have h1 : lam1 = 1 := by simpa [kp2] using h
  simp [om2, h1]

set_option maxRecDepth 8000 in
example : (unroll om2 2 kp2 1 1 0).length = 171 ∧ (unroll om 2 kp 1 1 0).length = 279 := by decide +kernel

example :
    (evalTerms (cartList 1).length (cartList 0).length (2 * 1 + 1) (unroll om2 2 kp2 1 1 0).toArray
        cA cB rad sA sB).getD ((1 * (cartList 0).length + 0) * (2 * 1 + 1) + 2) 0
      = (rolledUpBlock om2 (fun _ => true) 2 1 rad (cA 1) (cB 0) sA sB
          ((cartList 1)[1]'(by decide)) ((cartList 0)[0]'(by decide))).getD 2 0 :=
  unroll_correct om2 2 kp2 1 1 0 hkp2 cA cB rad sA sB 1 0 2 (by decide) (by decide) (by decide)

example :
    (evalTerms (cartList 1).length (cartList 0).length (2 * 1 + 1) (unroll om2 2 kp2 1 1 0).toArray
        cA cB rad sA sB).getD ((1 * (cartList 0).length + 0) * (2 * 1 + 1) + 2) 0 = 128 :=
  (evalTerms_unroll_getD om2 2 kp2 1 1 0 cA cB rad sA sB 1 0 2 (by decide) (by decide) (by decide)).trans (by decide +kernel)

example :
    (rolledUpBlock om2 (fun _ => true) 2 1 rad (cA 1) (cB 0) sA sB
        ((cartList 1)[1]'(by decide)) ((cartList 0)[0]'(by decide))).getD 2 0 = 128 :=
  (rolledUpBlock_getD om2 (fun _ => true) 2 1 rad (cA 1) (cB 0) sA sB _ _ 2 (by decide)).trans (by decide +kernel)

end Example

end Ecpint.C09
