/- C09 (part b) — the angular tables a generated class reads do not depend on the configured maximum angular momentum:
   an engine (and the generator) built with a larger MAX_L holds the same numbers at the entries both have.
   Definitions: Model/Angular.lean (bit for bit with angular.cpp). -/
import Ecpint.Model.Angular
namespace Ecpint.C09
open Ecpint.Angular

/-- the only place the table limit enters `makeW` is `min(maxLam, k+l+m)`: two limits that both cover the monomial's degree
select the same entries -/
theorem wWritten_limit_irrelevant (M M' k l m lam idx : Nat) (h : k + l + m ≤ M) (h' : k + l + m ≤ M') :
    wWritten M k l m lam idx = wWritten M' k l m lam idx := by
  unfold wWritten
  rw [Nat.min_eq_right h, Nat.min_eq_right h']

/-- … and hold the same value there -/
theorem wEntry_limit_irrelevant {α : Type} [Flt α] (U : Nat → Nat → Nat → Nat → Nat → α) (P : Nat → Nat → Nat → α)
    (M M' k l m lam idx : Nat) (h : k + l + m ≤ M) (h' : k + l + m ≤ M') :
    wEntry U P M k l m lam idx = wEntry U P M' k l m lam idx := by
  unfold wEntry
  rw [wWritten_limit_irrelevant M M' k l m lam idx h h']

end Ecpint.C09
