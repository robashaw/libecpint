/-
C10 — the integral engine can be used from many threads at once.

Model: Ecpint/Model/Conc.lean (threads, shared memory, arbitrary schedules); effect table: Gen/Effects.lean
(linker inventory of writable static storage + clang AST effect analysis, regenerated on every run).
-/
import Ecpint.Gen.Effects
import Ecpint.Lemmas.Conc

namespace Ecpint.C10
open Ecpint.Conc

/-- **no operation writes, outside a once-guard, a process-global object that any operation (itself included,
running on another thread) reads or writes** — decided on the extracted table for every pair of API operations:
constructing an engine and the three const compute routines. -/
theorem effects_disjoint : ∀ a ∈ Gen.ops, ∀ b ∈ Gen.ops, compatible a b = true := by decide +kernel

/-- the compute routines are const member functions with no back door (no `mutable` member, no const_cast):
they cannot write the engine they share -/
theorem compute_const_safe : ∀ a ∈ Gen.ops, a.name ≠ "construct_engine" → constSafe a = true := by decide +kernel

/-- every writable object the linker sees is accounted for: no operation writes it unguarded -/
theorem inventory_never_written_unguarded :
    ∀ g ∈ Gen.writableGlobals, ∀ a ∈ Gen.ops, g ∉ a.globalWrites := by decide +kernel

def conflict (a b : Instr) : Prop :=
  (∃ l, l ∈ a.writes ∧ (l ∈ b.reads ∨ l ∈ b.writes)) ∨ (∃ l, l ∈ b.writes ∧ (l ∈ a.reads ∨ l ∈ a.writes))

/-- **data-race freedom**: under Bernstein's condition no two instructions of different threads conflict, so no
interleaving whatsoever contains a race. -/
theorem no_conflicting_access (progs : List Prog) (hd : Disjoint progs) :
    ∀ i j : Nat, i ≠ j → ∀ pi pj : Prog, progs[i]? = some pi → progs[j]? = some pj →
      ∀ a ∈ pi, ∀ b ∈ pj, ¬ conflict a b := by
  intro i j hij pi pj hpi hpj a ha b hb hconf
  have hij' := hd i j hij pi pj hpi hpj
  have hji' := hd j i (Ne.symm hij) pj pi hpj hpi
  rcases hconf with ⟨l, hl, h | h⟩ | ⟨l, hl, h | h⟩
  · exact (hij' l (List.mem_flatMap_of_mem ha hl)).1 (List.mem_flatMap_of_mem hb h)
  · exact (hij' l (List.mem_flatMap_of_mem ha hl)).2 (List.mem_flatMap_of_mem hb h)
  · exact (hji' l (List.mem_flatMap_of_mem hb hl)).1 (List.mem_flatMap_of_mem ha h)
  · exact (hji' l (List.mem_flatMap_of_mem hb hl)).2 (List.mem_flatMap_of_mem ha h)

/-- **schedule independence** under Bernstein's condition, for any number of threads, any program lengths and ANY
schedule that lets every thread finish.  A thread's result is a function of what it read, hence bit for bit that of
the same call made serially. -/
theorem schedule_independent (m : Mem) (progs : List Prog) (hd : Disjoint progs) (sched : List Nat)
    (hf : Finished (run (start m progs) sched)) (i : Nat) (p : Prog) (hp : progs[i]? = some p) :
    ∃ t, (run (start m progs) sched).threads[i]? = some t ∧
      t.trace = (alone m { rest := p, trace := [] }).2.trace := by
  obtain ⟨_, hinv⟩ := inv_run m progs hd sched (start m progs) (inv_start m progs)
  obtain ⟨t, ht, _, hal⟩ := hinv i p hp
  rw [alone_nil _ t (hf t (List.mem_of_getElem? ht))] at hal
  exact ⟨t, ht, congrArg Thread.trace hal⟩

/-- the serial execution (thread 0 to completion, then thread 1, …) is one of the schedules … -/
def serialSched (progs : List Prog) : List Nat :=
  (List.range progs.length).flatMap fun i => List.replicate (progs[i]?.getD []).length i

/-- … and it lets every thread finish, so `schedule_independent` is not vacuous and really equates every
finishing interleaving with the serial run -/
theorem serial_finished (m : Mem) (progs : List Prog) :
    Finished (run (start m progs) (serialSched progs)) := by
  refine finished_of_count m progs _ fun i => ?_
  cases h : progs[i]? with
  | none => exact Nat.zero_le _
  | some p =>
    -- the block of thread `i` is a sublist of the serial schedule
    have hi : i < progs.length := (List.getElem?_eq_some_iff.mp h).1
    have hsub : (List.replicate (progs[i]?.getD []).length i).Sublist (serialSched progs) :=
      List.sublist_flatten_of_mem (List.mem_map.2 ⟨i, List.mem_range.2 hi, rfl⟩)
    simpa [h] using hsub.count_le i

/-- how the abstract objects are laid out in the model's memory -/
structure Layout where
  glob : String → Loc                     -- a process-global object
  priv : Nat → Loc → Prop                 -- objects private to thread i (its scratch, results, own engine)
  ro : Loc → Prop                         -- shared but read-only in the concurrent phase (a shared engine's tables)
  glob_inj : ∀ a b, glob a = glob b → a = b
  priv_disj : ∀ i j l, i ≠ j → priv i l → ¬ priv j l
  priv_not_glob : ∀ i l g, priv i l → l ≠ glob g
  ro_not_priv : ∀ i l, ro l → ¬ priv i l

/-- program `p` of thread `i` stays within the effects of operation `o` -/
def Conforms (L : Layout) (i : Nat) (o : OpEffects) (p : Prog) : Prop :=
  (∀ l ∈ Prog.writes p, (∃ g ∈ o.globalWrites, l = L.glob g) ∨ L.priv i l) ∧
  (∀ l ∈ Prog.reads p, (∃ g ∈ o.globalReads ++ o.onceWrites, l = L.glob g) ∨ L.priv i l ∨ L.ro l)

theorem conforming_disjoint (L : Layout) (ops : List OpEffects)
    (hc : ∀ a ∈ ops, ∀ b ∈ ops, compatible a b = true)
    (hro : ∀ l g, L.ro l → ∀ a ∈ ops, g ∈ a.globalWrites → l ≠ L.glob g)
    (progs : List Prog) (assign : Nat → OpEffects) (ha : ∀ i, i < progs.length → assign i ∈ ops)
    (hconf : ∀ (i : Nat) (p : Prog), progs[i]? = some p → Conforms L i (assign i) p) :
    Disjoint progs := by
  intro i j hij pi pj hpi hpj l hl
  have hi : i < progs.length := (List.getElem?_eq_some_iff.mp hpi).1
  have hj : j < progs.length := (List.getElem?_eq_some_iff.mp hpj).1
  obtain ⟨hwi, _⟩ := hconf i pi hpi
  obtain ⟨hwj, hrj⟩ := hconf j pj hpj
  have hcomp := hc (assign i) (ha i hi) (assign j) (ha j hj)
  rcases hwi l hl with ⟨g, hg, rfl⟩ | hpriv
  · have hg3 : g ∉ (assign j).globalReads ∧ g ∉ (assign j).globalWrites ∧ g ∉ (assign j).onceWrites := by
      simp only [compatible, Bool.and_eq_true, List.all_eq_true] at hcomp
      simpa [and_assoc] using hcomp.1 g hg
    constructor
    · intro hr
      rcases hrj _ hr with ⟨g2, hg2, he⟩ | hp | hr2
      · obtain rfl := L.glob_inj _ _ he
        rcases List.mem_append.mp hg2 with h | h
        · exact hg3.1 h
        · exact hg3.2.2 h
      · exact L.priv_not_glob j _ g hp rfl
      · exact hro _ g hr2 (assign i) (ha i hi) hg rfl
    · intro hw
      rcases hwj _ hw with ⟨g2, hg2, he⟩ | hp
      · obtain rfl := L.glob_inj _ _ he
        exact hg3.2.1 hg2
      · exact L.priv_not_glob j _ g hp rfl
  · constructor
    · intro hr
      rcases hrj _ hr with ⟨g2, _, he⟩ | hp | hr2
      · exact L.priv_not_glob i l g2 hpriv he
      · exact L.priv_disj i j l hij hpriv hp
      · exact L.ro_not_priv i l hr2 hpriv
    · intro hw
      rcases hwj _ hw with ⟨g2, _, he⟩ | hp
      · exact L.priv_not_glob i l g2 hpriv he
      · exact L.priv_disj i j l hij hpriv hp

/-- **C10 for the working tree** (`Gen.ops`, the operations extracted into Gen/Effects.lean): any number of threads,
each running any sequence of instructions that stays within the extracted effects of an API operation (constructing
and using a private engine, or calling the const compute routines of a shared one), under any schedule, computes
what the serial run computes. -/
theorem engine_thread_safe (L : Layout)
    (hro : ∀ l g, L.ro l → ∀ a ∈ Gen.ops, g ∈ a.globalWrites → l ≠ L.glob g)
    (m : Mem) (progs : List Prog) (assign : Nat → OpEffects) (ha : ∀ i, i < progs.length → assign i ∈ Gen.ops)
    (hconf : ∀ (i : Nat) (p : Prog), progs[i]? = some p → Conforms L i (assign i) p)
    (sched : List Nat) (hf : Finished (run (start m progs) sched)) (i : Nat) (p : Prog) (hp : progs[i]? = some p) :
    ∃ t, (run (start m progs) sched).threads[i]? = some t ∧
      t.trace = (alone m { rest := p, trace := [] }).2.trace :=
  schedule_independent m progs (conforming_disjoint L Gen.ops effects_disjoint hro progs assign ha hconf) sched hf i p hp

/-! ### non-vacuity and the historical counter-model -/

/-- two threads, disjoint footprints, an interleaved schedule: each reads what it reads alone -/
example :
    let progs : List Prog := [[.write 10 (fun _ => 7), .read 10, .read 0], [.read 0, .write 20 (fun t => t.sum + 1), .read 20]]
    let c := run (start (fun _ => 5) progs) [0, 1, 1, 0, 1, 0]
    c.threads.map (·.trace) = [[7, 5], [5, 6]] := by decide +kernel

/-- what the constructor did before the repair (`initFactorials()` rewriting the FAC/DFAC tables other threads read) is
NOT schedule independent: thread 1 reads 0 or 9 depending on the interleaving -/
example :
    let progs : List Prog := [[.write 1 (fun _ => 0), .write 1 (fun _ => 9)], [.read 1]]
    (run (start (fun _ => 9) progs) [0, 1, 0]).threads.map (·.trace) ≠
    (run (start (fun _ => 9) progs) [0, 0, 1]).threads.map (·.trace) := by decide +kernel

end Ecpint.C10
