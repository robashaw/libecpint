/- C11 — index safety: the raw offsets and table indices of the shell-pair routine stay inside their arrays.
   Facts about the index arithmetic the code performs (mirrored from multiarr.hpp, qgen.cpp, radial_gen.cpp,
   ecpint.cpp) and about the regenerated tables (Gen/QClasses, Gen/RadialCases, Gen/Constants). -/
import Ecpint.Gen.QClasses
import Ecpint.Props.C11b
import Ecpint.Gen.RadialCases
import Ecpint.Gen.Constants
import Ecpint.Lemmas.MixedRadix
import Ecpint.Lemmas.CartOrder
namespace Ecpint.C11
open Ecpint.Gen Ecpint.Contraction Ecpint.MixedRadix

/-- `SevenIndex::operator()`: p + mults[5] n + mults[4] m + mults[3] l + mults[2] k + mults[1] j + mults[0] i with the
mults of the constructor (mults[5] = d7, mults[4] = d7 d6, …) -/
def flat7 (d2 d3 d4 d5 d6 d7 : Nat) (i j k l m n p : Nat) : Nat :=
  p + d7 * n + d7 * d6 * m + d7 * d6 * d5 * l + d7 * d6 * d5 * d4 * k + d7 * d6 * d5 * d4 * d3 * j + d7 * d6 * d5 * d4 * d3 * d2 * i

theorem flat7_horner (d2 d3 d4 d5 d6 d7 i j k l m n p : Nat) :
    flat7 d2 d3 d4 d5 d6 d7 i j k l m n p
      = (((((i * d2 + j) * d3 + k) * d4 + l) * d5 + m) * d6 + n) * d7 + p := by
  rw [Nat.add_comm _ p, Nat.mul_comm _ d7, Nat.add_comm _ n, Nat.mul_comm _ d6, Nat.add_comm _ m, Nat.mul_comm _ d5,
    Nat.add_comm _ l, Nat.mul_comm _ d4, Nat.add_comm _ k, Nat.mul_comm _ d3, Nat.add_comm _ j, Nat.mul_comm _ d2]
  simp only [flat7, Nat.mul_add, Nat.mul_assoc, Nat.add_assoc]

/-- in-range index tuples give an offset inside the data vector -/
theorem flat7_lt (d1 d2 d3 d4 d5 d6 d7 i j k l m n p : Nat)
    (hi : i < d1) (hj : j < d2) (hk : k < d3) (hl : l < d4) (hm : m < d5) (hn : n < d6) (hp : p < d7) :
    flat7 d2 d3 d4 d5 d6 d7 i j k l m n p < d1 * d2 * d3 * d4 * d5 * d6 * d7 := by
  rw [flat7_horner]
  exact digit_lt (digit_lt (digit_lt (digit_lt (digit_lt (digit_lt hi hj) hk) hl) hm) hn) hp

/-- … and distinct in-range tuples give distinct offsets (no access that is in range only by accident) -/
theorem flat7_injective (d2 d3 d4 d5 d6 d7 i j k l m n p i' j' k' l' m' n' p' : Nat)
    (hj : j < d2) (hk : k < d3) (hl : l < d4) (hm : m < d5) (hn : n < d6) (hp : p < d7)
    (hj' : j' < d2) (hk' : k' < d3) (hl' : l' < d4) (hm' : m' < d5) (hn' : n' < d6) (hp' : p' < d7)
    (h : flat7 d2 d3 d4 d5 d6 d7 i j k l m n p = flat7 d2 d3 d4 d5 d6 d7 i' j' k' l' m' n' p') :
    i = i' ∧ j = j' ∧ k = k' ∧ l = l' ∧ m = m' ∧ n = n' ∧ p = p' := by
  rw [flat7_horner, flat7_horner] at h
  obtain ⟨h, e7⟩ := digit_inj hp hp' h
  obtain ⟨h, e6⟩ := digit_inj hn hn' h
  obtain ⟨h, e5⟩ := digit_inj hm hm' h
  obtain ⟨h, e4⟩ := digit_inj hl hl' h
  obtain ⟨h, e3⟩ := digit_inj hk hk' h
  obtain ⟨h, e2⟩ := digit_inj hj hj' h
  exact ⟨h, e2, e3, e4, e5, e6, e7⟩

/-- the offsets `rolled_up` forms by hand (w_lam + alpha_x mults[0] + … + lam1 (1 + mults[5]) + mu-offset + mu1) are the
accessor's offsets of an in-range tuple of the omega table of an engine built for (LB, LE) — dims (LB+1)³ × (LB+LE+1) ×
2(LB+LE+1) × (LB+LE+1) × 2(LB+LE+1) — whenever the shell, the ECP projector and the loop variables are within the
engine's limits -/
theorem rolledUp_omega_in_range (LBe LE LA lam ax ay az lam1 mi m1 : Nat)
    (hLA : LA ≤ LBe) (hlam : lam ≤ LE) (ha : ax + ay + az ≤ LA) (hl1 : lam1 ≤ lam + (ax + ay + az))
    (hmi : mi ≤ 2 * lam) (hm1 : m1 ≤ 2 * lam1) :
    ax < LBe + 1 ∧ ay < LBe + 1 ∧ az < LBe + 1 ∧ lam < LBe + LE + 1 ∧ mi < 2 * (LBe + LE + 1) ∧
      lam1 < LBe + LE + 1 ∧ m1 < 2 * (LBe + LE + 1) := by
  omega

/-- `compute_base_integrals(2, 3 + nbase, …)` writes `values[2n − 2]` for 1 ≤ n ≤ (3+nbase)/2 and `values[2n − 1]` for
1 ≤ n ≤ (2+nbase)/2: every written index is inside `new double[nbase + 2]`, and every index of that array is written
(no closed-form case can read an uninitialised base integral) -/
theorem base_integrals_fill (nbase : Nat) :
    (∀ n, 1 ≤ n → n ≤ (3 + nbase) / 2 → 2 * n - 2 < nbase + 2) ∧
    (∀ n, 1 ≤ n → n ≤ (2 + nbase) / 2 → 2 * n - 1 < nbase + 2) ∧
    (∀ i, i < nbase + 2 → (∃ n, 1 ≤ n ∧ n ≤ (3 + nbase) / 2 ∧ i = 2 * n - 2) ∨ (∃ n, 1 ≤ n ∧ n ≤ (2 + nbase) / 2 ∧ i = 2 * n - 1)) := by
  refine ⟨fun n h1 h2 => by omega, fun n h1 h2 => by omega, fun i hi => ?_⟩
  rcases Nat.mod_two_eq_zero_or_one i with h | h
  · exact Or.inl ⟨i / 2 + 1, by omega⟩
  · exact Or.inr ⟨i / 2 + 1, by omega⟩

/-- largest `values[·]` index the closed-form case with label `key` reads (0 if there is no such case) -/
def maxIdx (key : Nat) : Nat := ((radialCaseMaxIndex.find? fun q => q.1 = key).map (·.2)).getD 0

/-- the closed-form case labelled l1·10⁴ + l2·10² + k reads base integrals up to index k + l1 − 2 at most -/
theorem radialCaseMaxIndex_le : ∀ q ∈ radialCaseMaxIndex, q.2 ≤ q.1 % 100 + q.1 / 10000 - 2 := by
  decide +kernel

theorem maxIdx_le (key : Nat) : maxIdx key ≤ key % 100 + key / 10000 - 2 := by
  unfold maxIdx
  cases h : radialCaseMaxIndex.find? fun q => q.1 = key with
  | none => exact Nat.zero_le _
  | some q =>
    have hk : q.1 = key := by simpa using List.find?_some h
    exact hk ▸ radialCaseMaxIndex_le q (List.mem_of_find?_eq_some h)

theorem label_decode {l1 l2 k : Nat} (h2 : l2 < 100) (hk : k < 100) :
    (l1 * 10000 + l2 * 100 + k) % 100 = k ∧ (l1 * 10000 + l2 * 100 + k) / 10000 = l1 := by
  have e : l1 * 10000 + l2 * 100 + k = (l1 * 100 + l2) * 100 + k := by rw [Nat.add_mul, Nat.mul_assoc]
  rw [e, digit_mod hk, ← Nat.div_div_eq_div_mul _ 100 100, digit_div hk, digit_div h2]
  exact ⟨rfl, rfl⟩

/-- `nbase` covers N + l1 for every requested triple; the second bound makes the decimal label decode (two digits per field) -/
theorem nbase_covers : ∀ c ∈ qclasses, ∀ t ∈ c.triplesA ++ c.triplesB,
    t.1 + t.2.1 ≤ c.nbase + 1 ∧ t.1 + t.2.2 < 98 := by
  decide +kernel

/-- for every generated class, every requested triple (in either list) and every ECP power n ∈ {0,1,2} (k = N + n),
the closed-form case that is dispatched reads only base integrals the class's `nbase` provides — although `nbase` is
derived from the lexicographically last triple only -/
theorem values_index_le_nbase : ∀ c ∈ qclasses, ∀ t ∈ c.triplesA ++ c.triplesB, ∀ n ∈ [0, 1, 2],
    maxIdx (t.2.1 * 10000 + t.2.2 * 100 + (t.1 + n)) ≤ c.nbase + 1 := by
  intro c hc t ht n hn
  obtain ⟨h1, h2⟩ := nbase_covers c hc t ht
  have hn2 : n ≤ 2 := by
    simp only [List.mem_cons, List.not_mem_nil, or_false] at hn
    omega
  obtain ⟨e1, e2⟩ := label_decode (l1 := t.2.1) (l2 := t.2.2) (k := t.1 + n) (by omega) (by omega)
  refine Nat.le_trans (maxIdx_le _) ?_
  rw [e1, e2]
  omega

/-- fixed-size tables: with shells up to MAX_L + 2 (second derivatives shift by two) and ECP powers up to 2 the
both-on-centre branch reads GAMMA[N] with N = 2 + LA + LB + (n − 2) < 30 and calls FAST_POW[N + 1] with N + 1 < 23 -/
theorem onsite_table_indices : ∀ LA ≤ LIBECPINT_MAX_L + 2, ∀ LB ≤ LIBECPINT_MAX_L + 2, ∀ n ≤ 2,
    LA + LB + n < 30 ∧ LA + LB + n + 1 < 23 := by
  intro LA hLA LB hLB n hn
  simp only [LIBECPINT_MAX_L] at hLA hLB
  omega

/-- factorial table: the binomial coefficients of `calcC` read FAC[a], FAC[m], FAC[a − m] with a ≤ MAX_L + 2 < MAX_FAC -/
theorem calcC_fac_indices : ∀ a ≤ LIBECPINT_MAX_L + 2, ∀ m ≤ a, a < MAX_FAC ∧ m < MAX_FAC ∧ a - m < MAX_FAC := by
  intro a ha m hm
  simp only [LIBECPINT_MAX_L] at ha
  simp only [MAX_FAC]
  omega

/-- the Cartesian counter never leaves the block: component positions are below ncart L -/
theorem cart_position_lt (L x y z : Nat) (h : x + y + z = L) : (y + z) * (y + z + 1) / 2 + z < ncart L := by
  rw [← Deriv.nIdx_eq_nat]
  exact Deriv.nIdx_lt_ncart (by omega)

end Ecpint.C11
