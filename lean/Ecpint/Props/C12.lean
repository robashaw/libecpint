/- C12 — primitive radial integrals: dispatch and indexing facts decided on the regenerated tables; the 63 closed-form
   cases against the recurrence are in Props/C12Cases (imported here, so they are rebuilt and audited with this module). -/
import Ecpint.Gen.QClasses
import Ecpint.Props.C12Cases
namespace Ecpint.C12
open Ecpint.Gen

/-- the case key `l1·10000 + l2·100 + k` is injective on everything any generated class can request
(l1, l2 ≤ 99 and k ≤ 99 suffices; the largest requested indices are far below) -/
theorem key_injective_on_requests :
    ∀ c ∈ qclasses, ∀ t ∈ c.triplesA ++ c.triplesB, t.2.1 < 100 ∧ t.2.2 < 100 ∧ t.1 + 2 < 100 := by decide +kernel

/-- the labels of the closed-form cases are distinct -/
theorem case_keys_nodup : radialCaseKeys.Nodup := by decide +kernel

end Ecpint.C12
