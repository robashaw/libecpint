/- C12 — every closed-form radial case of the generated `switch` against the recurrences it was generated from.

   For every key in `radialCaseKeys`, `Ecpint.C12.case_<key>` (C12Cases/Part1.lean) proves, over any field of
   characteristic zero and for any base-integral families satisfying the four reduction relations,

     radialCase_<key> p x y (x*x) (y*y) (p*p) (valuesOf fam) (fam.GA 1) (fam.GB 1) (fam.H 2) = Q p x y fam i j k.

   `radialCase_<key>` is re-translated from src/lib/radial_gen.cpp on every run, so an edited coefficient in any of the
   63 cases makes its theorem fail, and with it those of the cases proved from it by a step of the recurrence.
   (On the pinned tree case 10110 was false - see `case_10110`.)

   `all_cases_listed` ties this file to the generated table: adding or removing a case there breaks the build here. -/
import Ecpint.Props.C12Cases.Part1
namespace Ecpint.C12
open Ecpint.RadialRec Ecpint.Gen

theorem all_cases_listed : radialCaseKeys =
    [2, 4, 6, 8, 10, 12, 101, 103, 105, 107, 109, 111, 202, 204, 206, 208, 210, 301, 303, 305, 307, 309,
     402, 404, 406, 408, 10102, 10104, 10106, 10108, 10110, 10201, 10203, 10205, 10207, 10209,
     10302, 10304, 10306, 10308, 10401, 10403, 10405, 10407, 20202, 20204, 20206, 20208,
     20301, 20303, 20305, 20307, 20402, 20404, 20406, 30302, 30304, 30306, 30401, 30403, 30405,
     40402, 40404] := by decide

/-- all 63 cases, one conjunct per key (so that a missing `case_<key>` is a build error) -/
theorem all_proved_cases {K : Type} [Field K] [CharZero K] (p x y : K) (hx : x ≠ 0) (hy : y ≠ 0) (fam : Fam K)
    (h : Reductions p x y fam) :
    (radialCase_2 p x y (x*x) (y*y) (p*p) (valuesOf fam) (fam.GA 1) (fam.GB 1) (fam.H 2) = Q p x y fam 0 0 2)
    ∧ (radialCase_4 p x y (x*x) (y*y) (p*p) (valuesOf fam) (fam.GA 1) (fam.GB 1) (fam.H 2) = Q p x y fam 0 0 4)
    ∧ (radialCase_6 p x y (x*x) (y*y) (p*p) (valuesOf fam) (fam.GA 1) (fam.GB 1) (fam.H 2) = Q p x y fam 0 0 6)
    ∧ (radialCase_8 p x y (x*x) (y*y) (p*p) (valuesOf fam) (fam.GA 1) (fam.GB 1) (fam.H 2) = Q p x y fam 0 0 8)
    ∧ (radialCase_10 p x y (x*x) (y*y) (p*p) (valuesOf fam) (fam.GA 1) (fam.GB 1) (fam.H 2) = Q p x y fam 0 0 10)
    ∧ (radialCase_12 p x y (x*x) (y*y) (p*p) (valuesOf fam) (fam.GA 1) (fam.GB 1) (fam.H 2) = Q p x y fam 0 0 12)
    ∧ (radialCase_101 p x y (x*x) (y*y) (p*p) (valuesOf fam) (fam.GA 1) (fam.GB 1) (fam.H 2) = Q p x y fam 0 1 1)
    ∧ (radialCase_103 p x y (x*x) (y*y) (p*p) (valuesOf fam) (fam.GA 1) (fam.GB 1) (fam.H 2) = Q p x y fam 0 1 3)
    ∧ (radialCase_105 p x y (x*x) (y*y) (p*p) (valuesOf fam) (fam.GA 1) (fam.GB 1) (fam.H 2) = Q p x y fam 0 1 5)
    ∧ (radialCase_107 p x y (x*x) (y*y) (p*p) (valuesOf fam) (fam.GA 1) (fam.GB 1) (fam.H 2) = Q p x y fam 0 1 7)
    ∧ (radialCase_109 p x y (x*x) (y*y) (p*p) (valuesOf fam) (fam.GA 1) (fam.GB 1) (fam.H 2) = Q p x y fam 0 1 9)
    ∧ (radialCase_111 p x y (x*x) (y*y) (p*p) (valuesOf fam) (fam.GA 1) (fam.GB 1) (fam.H 2) = Q p x y fam 0 1 11)
    ∧ (radialCase_202 p x y (x*x) (y*y) (p*p) (valuesOf fam) (fam.GA 1) (fam.GB 1) (fam.H 2) = Q p x y fam 0 2 2)
    ∧ (radialCase_204 p x y (x*x) (y*y) (p*p) (valuesOf fam) (fam.GA 1) (fam.GB 1) (fam.H 2) = Q p x y fam 0 2 4)
    ∧ (radialCase_206 p x y (x*x) (y*y) (p*p) (valuesOf fam) (fam.GA 1) (fam.GB 1) (fam.H 2) = Q p x y fam 0 2 6)
    ∧ (radialCase_208 p x y (x*x) (y*y) (p*p) (valuesOf fam) (fam.GA 1) (fam.GB 1) (fam.H 2) = Q p x y fam 0 2 8)
    ∧ (radialCase_210 p x y (x*x) (y*y) (p*p) (valuesOf fam) (fam.GA 1) (fam.GB 1) (fam.H 2) = Q p x y fam 0 2 10)
    ∧ (radialCase_301 p x y (x*x) (y*y) (p*p) (valuesOf fam) (fam.GA 1) (fam.GB 1) (fam.H 2) = Q p x y fam 0 3 1)
    ∧ (radialCase_303 p x y (x*x) (y*y) (p*p) (valuesOf fam) (fam.GA 1) (fam.GB 1) (fam.H 2) = Q p x y fam 0 3 3)
    ∧ (radialCase_305 p x y (x*x) (y*y) (p*p) (valuesOf fam) (fam.GA 1) (fam.GB 1) (fam.H 2) = Q p x y fam 0 3 5)
    ∧ (radialCase_307 p x y (x*x) (y*y) (p*p) (valuesOf fam) (fam.GA 1) (fam.GB 1) (fam.H 2) = Q p x y fam 0 3 7)
    ∧ (radialCase_309 p x y (x*x) (y*y) (p*p) (valuesOf fam) (fam.GA 1) (fam.GB 1) (fam.H 2) = Q p x y fam 0 3 9)
    ∧ (radialCase_402 p x y (x*x) (y*y) (p*p) (valuesOf fam) (fam.GA 1) (fam.GB 1) (fam.H 2) = Q p x y fam 0 4 2)
    ∧ (radialCase_404 p x y (x*x) (y*y) (p*p) (valuesOf fam) (fam.GA 1) (fam.GB 1) (fam.H 2) = Q p x y fam 0 4 4)
    ∧ (radialCase_406 p x y (x*x) (y*y) (p*p) (valuesOf fam) (fam.GA 1) (fam.GB 1) (fam.H 2) = Q p x y fam 0 4 6)
    ∧ (radialCase_408 p x y (x*x) (y*y) (p*p) (valuesOf fam) (fam.GA 1) (fam.GB 1) (fam.H 2) = Q p x y fam 0 4 8)
    ∧ (radialCase_10102 p x y (x*x) (y*y) (p*p) (valuesOf fam) (fam.GA 1) (fam.GB 1) (fam.H 2) = Q p x y fam 1 1 2)
    ∧ (radialCase_10104 p x y (x*x) (y*y) (p*p) (valuesOf fam) (fam.GA 1) (fam.GB 1) (fam.H 2) = Q p x y fam 1 1 4)
    ∧ (radialCase_10106 p x y (x*x) (y*y) (p*p) (valuesOf fam) (fam.GA 1) (fam.GB 1) (fam.H 2) = Q p x y fam 1 1 6)
    ∧ (radialCase_10108 p x y (x*x) (y*y) (p*p) (valuesOf fam) (fam.GA 1) (fam.GB 1) (fam.H 2) = Q p x y fam 1 1 8)
    ∧ (radialCase_10110 p x y (x*x) (y*y) (p*p) (valuesOf fam) (fam.GA 1) (fam.GB 1) (fam.H 2) = Q p x y fam 1 1 10)
    ∧ (radialCase_10201 p x y (x*x) (y*y) (p*p) (valuesOf fam) (fam.GA 1) (fam.GB 1) (fam.H 2) = Q p x y fam 1 2 1)
    ∧ (radialCase_10203 p x y (x*x) (y*y) (p*p) (valuesOf fam) (fam.GA 1) (fam.GB 1) (fam.H 2) = Q p x y fam 1 2 3)
    ∧ (radialCase_10205 p x y (x*x) (y*y) (p*p) (valuesOf fam) (fam.GA 1) (fam.GB 1) (fam.H 2) = Q p x y fam 1 2 5)
    ∧ (radialCase_10207 p x y (x*x) (y*y) (p*p) (valuesOf fam) (fam.GA 1) (fam.GB 1) (fam.H 2) = Q p x y fam 1 2 7)
    ∧ (radialCase_10209 p x y (x*x) (y*y) (p*p) (valuesOf fam) (fam.GA 1) (fam.GB 1) (fam.H 2) = Q p x y fam 1 2 9)
    ∧ (radialCase_10302 p x y (x*x) (y*y) (p*p) (valuesOf fam) (fam.GA 1) (fam.GB 1) (fam.H 2) = Q p x y fam 1 3 2)
    ∧ (radialCase_10304 p x y (x*x) (y*y) (p*p) (valuesOf fam) (fam.GA 1) (fam.GB 1) (fam.H 2) = Q p x y fam 1 3 4)
    ∧ (radialCase_10306 p x y (x*x) (y*y) (p*p) (valuesOf fam) (fam.GA 1) (fam.GB 1) (fam.H 2) = Q p x y fam 1 3 6)
    ∧ (radialCase_10308 p x y (x*x) (y*y) (p*p) (valuesOf fam) (fam.GA 1) (fam.GB 1) (fam.H 2) = Q p x y fam 1 3 8)
    ∧ (radialCase_10401 p x y (x*x) (y*y) (p*p) (valuesOf fam) (fam.GA 1) (fam.GB 1) (fam.H 2) = Q p x y fam 1 4 1)
    ∧ (radialCase_10403 p x y (x*x) (y*y) (p*p) (valuesOf fam) (fam.GA 1) (fam.GB 1) (fam.H 2) = Q p x y fam 1 4 3)
    ∧ (radialCase_10405 p x y (x*x) (y*y) (p*p) (valuesOf fam) (fam.GA 1) (fam.GB 1) (fam.H 2) = Q p x y fam 1 4 5)
    ∧ (radialCase_10407 p x y (x*x) (y*y) (p*p) (valuesOf fam) (fam.GA 1) (fam.GB 1) (fam.H 2) = Q p x y fam 1 4 7)
    ∧ (radialCase_20202 p x y (x*x) (y*y) (p*p) (valuesOf fam) (fam.GA 1) (fam.GB 1) (fam.H 2) = Q p x y fam 2 2 2)
    ∧ (radialCase_20204 p x y (x*x) (y*y) (p*p) (valuesOf fam) (fam.GA 1) (fam.GB 1) (fam.H 2) = Q p x y fam 2 2 4)
    ∧ (radialCase_20206 p x y (x*x) (y*y) (p*p) (valuesOf fam) (fam.GA 1) (fam.GB 1) (fam.H 2) = Q p x y fam 2 2 6)
    ∧ (radialCase_20208 p x y (x*x) (y*y) (p*p) (valuesOf fam) (fam.GA 1) (fam.GB 1) (fam.H 2) = Q p x y fam 2 2 8)
    ∧ (radialCase_20301 p x y (x*x) (y*y) (p*p) (valuesOf fam) (fam.GA 1) (fam.GB 1) (fam.H 2) = Q p x y fam 2 3 1)
    ∧ (radialCase_20303 p x y (x*x) (y*y) (p*p) (valuesOf fam) (fam.GA 1) (fam.GB 1) (fam.H 2) = Q p x y fam 2 3 3)
    ∧ (radialCase_20305 p x y (x*x) (y*y) (p*p) (valuesOf fam) (fam.GA 1) (fam.GB 1) (fam.H 2) = Q p x y fam 2 3 5)
    ∧ (radialCase_20307 p x y (x*x) (y*y) (p*p) (valuesOf fam) (fam.GA 1) (fam.GB 1) (fam.H 2) = Q p x y fam 2 3 7)
    ∧ (radialCase_20402 p x y (x*x) (y*y) (p*p) (valuesOf fam) (fam.GA 1) (fam.GB 1) (fam.H 2) = Q p x y fam 2 4 2)
    ∧ (radialCase_20404 p x y (x*x) (y*y) (p*p) (valuesOf fam) (fam.GA 1) (fam.GB 1) (fam.H 2) = Q p x y fam 2 4 4)
    ∧ (radialCase_20406 p x y (x*x) (y*y) (p*p) (valuesOf fam) (fam.GA 1) (fam.GB 1) (fam.H 2) = Q p x y fam 2 4 6)
    ∧ (radialCase_30302 p x y (x*x) (y*y) (p*p) (valuesOf fam) (fam.GA 1) (fam.GB 1) (fam.H 2) = Q p x y fam 3 3 2)
    ∧ (radialCase_30304 p x y (x*x) (y*y) (p*p) (valuesOf fam) (fam.GA 1) (fam.GB 1) (fam.H 2) = Q p x y fam 3 3 4)
    ∧ (radialCase_30306 p x y (x*x) (y*y) (p*p) (valuesOf fam) (fam.GA 1) (fam.GB 1) (fam.H 2) = Q p x y fam 3 3 6)
    ∧ (radialCase_30401 p x y (x*x) (y*y) (p*p) (valuesOf fam) (fam.GA 1) (fam.GB 1) (fam.H 2) = Q p x y fam 3 4 1)
    ∧ (radialCase_30403 p x y (x*x) (y*y) (p*p) (valuesOf fam) (fam.GA 1) (fam.GB 1) (fam.H 2) = Q p x y fam 3 4 3)
    ∧ (radialCase_30405 p x y (x*x) (y*y) (p*p) (valuesOf fam) (fam.GA 1) (fam.GB 1) (fam.H 2) = Q p x y fam 3 4 5)
    ∧ (radialCase_40402 p x y (x*x) (y*y) (p*p) (valuesOf fam) (fam.GA 1) (fam.GB 1) (fam.H 2) = Q p x y fam 4 4 2)
    ∧ (radialCase_40404 p x y (x*x) (y*y) (p*p) (valuesOf fam) (fam.GA 1) (fam.GB 1) (fam.H 2) = Q p x y fam 4 4 4) :=
  ⟨case_2 p x y hx hy fam h,
   case_4 p x y hx hy fam h,
   case_6 p x y hx hy fam h,
   case_8 p x y hx hy fam h,
   case_10 p x y hx hy fam h,
   case_12 p x y hx hy fam h,
   case_101 p x y hx hy fam h,
   case_103 p x y hx hy fam h,
   case_105 p x y hx hy fam h,
   case_107 p x y hx hy fam h,
   case_109 p x y hx hy fam h,
   case_111 p x y hx hy fam h,
   case_202 p x y hx hy fam h,
   case_204 p x y hx hy fam h,
   case_206 p x y hx hy fam h,
   case_208 p x y hx hy fam h,
   case_210 p x y hx hy fam h,
   case_301 p x y hx hy fam h,
   case_303 p x y hx hy fam h,
   case_305 p x y hx hy fam h,
   case_307 p x y hx hy fam h,
   case_309 p x y hx hy fam h,
   case_402 p x y hx hy fam h,
   case_404 p x y hx hy fam h,
   case_406 p x y hx hy fam h,
   case_408 p x y hx hy fam h,
   case_10102 p x y hx hy fam h,
   case_10104 p x y hx hy fam h,
   case_10106 p x y hx hy fam h,
   case_10108 p x y hx hy fam h,
   case_10110 p x y hx hy fam h,
   case_10201 p x y hx hy fam h,
   case_10203 p x y hx hy fam h,
   case_10205 p x y hx hy fam h,
   case_10207 p x y hx hy fam h,
   case_10209 p x y hx hy fam h,
   case_10302 p x y hx hy fam h,
   case_10304 p x y hx hy fam h,
   case_10306 p x y hx hy fam h,
   case_10308 p x y hx hy fam h,
   case_10401 p x y hx hy fam h,
   case_10403 p x y hx hy fam h,
   case_10405 p x y hx hy fam h,
   case_10407 p x y hx hy fam h,
   case_20202 p x y hx hy fam h,
   case_20204 p x y hx hy fam h,
   case_20206 p x y hx hy fam h,
   case_20208 p x y hx hy fam h,
   case_20301 p x y hx hy fam h,
   case_20303 p x y hx hy fam h,
   case_20305 p x y hx hy fam h,
   case_20307 p x y hx hy fam h,
   case_20402 p x y hx hy fam h,
   case_20404 p x y hx hy fam h,
   case_20406 p x y hx hy fam h,
   case_30302 p x y hx hy fam h,
   case_30304 p x y hx hy fam h,
   case_30306 p x y hx hy fam h,
   case_30401 p x y hx hy fam h,
   case_30403 p x y hx hy fam h,
   case_30405 p x y hx hy fam h,
   case_40402 p x y hx hy fam h,
   case_40404 p x y hx hy fam h⟩

end Ecpint.C12
