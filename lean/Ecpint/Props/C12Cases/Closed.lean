/- Closed forms of the base integrals F (even N) and G^B (odd N) with N ≤ 0 in terms of F 2, G^B 1, G^A 1, H 2, obtained
   by iterating the four reduction relations.

   The relation for F_N needs G^A_{N+1} and the one for G^B_N needs H_{N+1}.  The four relations are carried into each other
   by the exchange F ↔ H, G^B ↔ G^A (`Reductions.dual`), so the closed form of G^A_N is that of G^B_N at the exchanged
   family, and that of H_N is that of F_N there: one chain F_0, G^B_{-1}, F_{-2}, … suffices. -/
import Ecpint.Lemmas.RadialRec
import Mathlib.Tactic.Ring
namespace Ecpint.RadialRec
variable {K : Type} [Field K] {p x y : K} {fam : Fam K}

/-- the exchange F ↔ H, G^B ↔ G^A -/
def Fam.dual (fam : Fam K) : Fam K := ⟨fam.H, fam.GA, fam.GB, fam.F⟩

theorem Reductions.dual (h : Reductions p x y fam) : Reductions p x y fam.dual := ⟨h.hH, h.hGA, h.hGB, h.hF⟩

end Ecpint.RadialRec
namespace Ecpint.C12
open Ecpint.RadialRec
variable {K : Type} [Field K] [CharZero K] {p x y : K} {fam : Fam K}

theorem F_0 (h : Reductions p x y fam) :
    fam.F 0 = ((-2 : K) * p) * fam.F 2 + ((2 : K) * y) * fam.GB 1 + ((2 : K) * x) * fam.GA 1 + (0) * fam.H 2 := by
  have e := h.hF 0 (by norm_num)
  norm_num at e
  rw [e]
  ring

theorem GB_m1 (h : Reductions p x y fam) :
    fam.GB (-1) = ((-2 : K) * p * y) * fam.F 2 + ((-1 : K) * p + (2 : K) * x * x + (2 : K) * y * y) * fam.GB 1 + ((4 : K) * x * y) * fam.GA 1 + ((-2 : K) * p * x) * fam.H 2 := by
  have e := h.hGB (-1) (by norm_num)
  norm_num at e
  have eH : fam.H 0 = _ := F_0 h.dual
  rw [e, F_0 h, eH]
  simp only [Fam.dual]
  ring

theorem F_m2 (h : Reductions p x y fam) :
    fam.F (-2) = ((4/3 : K) * p * p + (-4/3 : K) * p * x * x + (-4/3 : K) * p * y * y) * fam.F 2 + ((-2 : K) * p * y + (4 : K) * x * x * y + (4/3 : K) * y * y * y) * fam.GB 1 + ((-2 : K) * p * x + (4/3 : K) * x * x * x + (4 : K) * x * y * y) * fam.GA 1 + ((-8/3 : K) * p * x * y) * fam.H 2 := by
  have e := h.hF (-2) (by norm_num)
  norm_num at e
  have eGA : fam.GA (-1) = _ := GB_m1 h.dual
  rw [e, F_0 h, GB_m1 h, eGA]
  simp only [Fam.dual]
  ring

theorem GB_m3 (h : Reductions p x y fam) :
    fam.GB (-3) = ((5/3 : K) * p * p * y + (-2 : K) * p * x * x * y + (-2/3 : K) * p * y * y * y) * fam.F 2 + ((1/2 : K) * p * p + (-2 : K) * p * x * x + (-2 : K) * p * y * y + (2/3 : K) * x * x * x * x + (4 : K) * x * x * y * y + (2/3 : K) * y * y * y * y) * fam.GB 1 + ((-4 : K) * p * x * y + (8/3 : K) * x * x * x * y + (8/3 : K) * x * y * y * y) * fam.GA 1 + ((5/3 : K) * p * p * x + (-2/3 : K) * p * x * x * x + (-2 : K) * p * x * y * y) * fam.H 2 := by
  have e := h.hGB (-3) (by norm_num)
  norm_num at e
  have eH : fam.H (-2) = _ := F_m2 h.dual
  rw [e, GB_m1 h, F_m2 h, eH]
  simp only [Fam.dual]
  ring

theorem F_m4 (h : Reductions p x y fam) :
    fam.F (-4) = ((-8/15 : K) * p * p * p + (6/5 : K) * p * p * x * x + (6/5 : K) * p * p * y * y + (-4/15 : K) * p * x * x * x * x + (-8/5 : K) * p * x * x * y * y + (-4/15 : K) * p * y * y * y * y) * fam.F 2 + ((1 : K) * p * p * y + (-4 : K) * p * x * x * y + (-4/3 : K) * p * y * y * y + (4/3 : K) * x * x * x * x * y + (8/3 : K) * x * x * y * y * y + (4/15 : K) * y * y * y * y * y) * fam.GB 1 + ((1 : K) * p * p * x + (-4/3 : K) * p * x * x * x + (-4 : K) * p * x * y * y + (4/15 : K) * x * x * x * x * x + (8/3 : K) * x * x * x * y * y + (4/3 : K) * x * y * y * y * y) * fam.GA 1 + ((12/5 : K) * p * p * x * y + (-16/15 : K) * p * x * x * x * y + (-16/15 : K) * p * x * y * y * y) * fam.H 2 := by
  have e := h.hF (-4) (by norm_num)
  norm_num at e
  have eGA : fam.GA (-3) = _ := GB_m3 h.dual
  rw [e, F_m2 h, GB_m3 h, eGA]
  simp only [Fam.dual]
  ring

theorem GB_m5 (h : Reductions p x y fam) :
    fam.GB (-5) = ((-11/15 : K) * p * p * p * y + (28/15 : K) * p * p * x * x * y + (28/45 : K) * p * p * y * y * y + (-4/9 : K) * p * x * x * x * x * y + (-8/9 : K) * p * x * x * y * y * y + (-4/45 : K) * p * y * y * y * y * y) * fam.F 2 + ((-1/6 : K) * p * p * p + (1 : K) * p * p * x * x + (1 : K) * p * p * y * y + (-2/3 : K) * p * x * x * x * x + (-4 : K) * p * x * x * y * y + (-2/3 : K) * p * y * y * y * y + (4/45 : K) * x * x * x * x * x * x + (4/3 : K) * x * x * x * x * y * y + (4/3 : K) * x * x * y * y * y * y + (4/45 : K) * y * y * y * y * y * y) * fam.GB 1 + ((2 : K) * p * p * x * y + (-8/3 : K) * p * x * x * x * y + (-8/3 : K) * p * x * y * y * y + (8/15 : K) * x * x * x * x * x * y + (16/9 : K) * x * x * x * y * y * y + (8/15 : K) * x * y * y * y * y * y) * fam.GA 1 + ((-11/15 : K) * p * p * p * x + (28/45 : K) * p * p * x * x * x + (28/15 : K) * p * p * x * y * y + (-4/45 : K) * p * x * x * x * x * x + (-8/9 : K) * p * x * x * x * y * y + (-4/9 : K) * p * x * y * y * y * y) * fam.H 2 := by
  have e := h.hGB (-5) (by norm_num)
  norm_num at e
  have eH : fam.H (-4) = _ := F_m4 h.dual
  rw [e, GB_m3 h, F_m4 h, eH]
  simp only [Fam.dual]
  ring

theorem F_m6 (h : Reductions p x y fam) :
    fam.F (-6) = ((16/105 : K) * p * p * p * p + (-58/105 : K) * p * p * p * x * x + (-58/105 : K) * p * p * p * y * y + (16/63 : K) * p * p * x * x * x * x + (32/21 : K) * p * p * x * x * y * y + (16/63 : K) * p * p * y * y * y * y + (-8/315 : K) * p * x * x * x * x * x * x + (-8/21 : K) * p * x * x * x * x * y * y + (-8/21 : K) * p * x * x * y * y * y * y + (-8/315 : K) * p * y * y * y * y * y * y) * fam.F 2 + ((-1/3 : K) * p * p * p * y + (2 : K) * p * p * x * x * y + (2/3 : K) * p * p * y * y * y + (-4/3 : K) * p * x * x * x * x * y + (-8/3 : K) * p * x * x * y * y * y + (-4/15 : K) * p * y * y * y * y * y + (8/45 : K) * x * x * x * x * x * x * y + (8/9 : K) * x * x * x * x * y * y * y + (8/15 : K) * x * x * y * y * y * y * y + (8/315 : K) * y * y * y * y * y * y * y) * fam.GB 1 + ((-1/3 : K) * p * p * p * x + (2/3 : K) * p * p * x * x * x + (2 : K) * p * p * x * y * y + (-4/15 : K) * p * x * x * x * x * x + (-8/3 : K) * p * x * x * x * y * y + (-4/3 : K) * p * x * y * y * y * y + (8/315 : K) * x * x * x * x * x * x * x + (8/15 : K) * x * x * x * x * x * y * y + (8/9 : K) * x * x * x * y * y * y * y + (8/45 : K) * x * y * y * y * y * y * y) * fam.GA 1 + ((-116/105 : K) * p * p * p * x * y + (64/63 : K) * p * p * x * x * x * y + (64/63 : K) * p * p * x * y * y * y + (-16/105 : K) * p * x * x * x * x * x * y + (-32/63 : K) * p * x * x * x * y * y * y + (-16/105 : K) * p * x * y * y * y * y * y) * fam.H 2 := by
  have e := h.hF (-6) (by norm_num)
  norm_num at e
  have eGA : fam.GA (-5) = _ := GB_m5 h.dual
  rw [e, F_m4 h, GB_m5 h, eGA]
  simp only [Fam.dual]
  ring

theorem GB_m7 (h : Reductions p x y fam) :
    fam.GB (-7) = ((31/140 : K) * p * p * p * p * y + (-37/42 : K) * p * p * p * x * x * y + (-37/126 : K) * p * p * p * y * y * y + (3/7 : K) * p * p * x * x * x * x * y + (6/7 : K) * p * p * x * x * y * y * y + (3/35 : K) * p * p * y * y * y * y * y + (-2/45 : K) * p * x * x * x * x * x * x * y + (-2/9 : K) * p * x * x * x * x * y * y * y + (-2/15 : K) * p * x * x * y * y * y * y * y + (-2/315 : K) * p * y * y * y * y * y * y * y) * fam.F 2 + ((1/24 : K) * p * p * p * p + (-1/3 : K) * p * p * p * x * x + (-1/3 : K) * p * p * p * y * y + (1/3 : K) * p * p * x * x * x * x + (2 : K) * p * p * x * x * y * y + (1/3 : K) * p * p * y * y * y * y + (-4/45 : K) * p * x * x * x * x * x * x + (-4/3 : K) * p * x * x * x * x * y * y + (-4/3 : K) * p * x * x * y * y * y * y + (-4/45 : K) * p * y * y * y * y * y * y + (2/315 : K) * x * x * x * x * x * x * x * x + (8/45 : K) * x * x * x * x * x * x * y * y + (4/9 : K) * x * x * x * x * y * y * y * y + (8/45 : K) * x * x * y * y * y * y * y * y + (2/315 : K) * y * y * y * y * y * y * y * y) * fam.GB 1 + ((-2/3 : K) * p * p * p * x * y + (4/3 : K) * p * p * x * x * x * y + (4/3 : K) * p * p * x * y * y * y + (-8/15 : K) * p * x * x * x * x * x * y + (-16/9 : K) * p * x * x * x * y * y * y + (-8/15 : K) * p * x * y * y * y * y * y + (16/315 : K) * x * x * x * x * x * x * x * y + (16/45 : K) * x * x * x * x * x * y * y * y + (16/45 : K) * x * x * x * y * y * y * y * y + (16/315 : K) * x * y * y * y * y * y * y * y) * fam.GA 1 + ((31/140 : K) * p * p * p * p * x + (-37/126 : K) * p * p * p * x * x * x + (-37/42 : K) * p * p * p * x * y * y + (3/35 : K) * p * p * x * x * x * x * x + (6/7 : K) * p * p * x * x * x * y * y + (3/7 : K) * p * p * x * y * y * y * y + (-2/315 : K) * p * x * x * x * x * x * x * x + (-2/15 : K) * p * x * x * x * x * x * y * y + (-2/9 : K) * p * x * x * x * y * y * y * y + (-2/45 : K) * p * x * y * y * y * y * y * y) * fam.H 2 := by
  have e := h.hGB (-7) (by norm_num)
  norm_num at e
  have eH : fam.H (-6) = _ := F_m6 h.dual
  rw [e, GB_m5 h, F_m6 h, eH]
  simp only [Fam.dual]
  ring

theorem F_m8 (h : Reductions p x y fam) :
    fam.F (-8) = ((-32/945 : K) * p * p * p * p * p + (65/378 : K) * p * p * p * p * x * x + (65/378 : K) * p * p * p * p * y * y + (-23/189 : K) * p * p * p * x * x * x * x + (-46/63 : K) * p * p * p * x * x * y * y + (-23/189 : K) * p * p * p * y * y * y * y + (2/81 : K) * p * p * x * x * x * x * x * x + (10/27 : K) * p * p * x * x * x * x * y * y + (10/27 : K) * p * p * x * x * y * y * y * y + (2/81 : K) * p * p * y * y * y * y * y * y + (-4/2835 : K) * p * x * x * x * x * x * x * x * x + (-16/405 : K) * p * x * x * x * x * x * x * y * y + (-8/81 : K) * p * x * x * x * x * y * y * y * y + (-16/405 : K) * p * x * x * y * y * y * y * y * y + (-4/2835 : K) * p * y * y * y * y * y * y * y * y) * fam.F 2 + ((1/12 : K) * p * p * p * p * y + (-2/3 : K) * p * p * p * x * x * y + (-2/9 : K) * p * p * p * y * y * y + (2/3 : K) * p * p * x * x * x * x * y + (4/3 : K) * p * p * x * x * y * y * y + (2/15 : K) * p * p * y * y * y * y * y + (-8/45 : K) * p * x * x * x * x * x * x * y + (-8/9 : K) * p * x * x * x * x * y * y * y + (-8/15 : K) * p * x * x * y * y * y * y * y + (-8/315 : K) * p * y * y * y * y * y * y * y + (4/315 : K) * x * x * x * x * x * x * x * x * y + (16/135 : K) * x * x * x * x * x * x * y * y * y + (8/45 : K) * x * x * x * x * y * y * y * y * y + (16/315 : K) * x * x * y * y * y * y * y * y * y + (4/2835 : K) * y * y * y * y * y * y * y * y * y) * fam.GB 1 + ((1/12 : K) * p * p * p * p * x + (-2/9 : K) * p * p * p * x * x * x + (-2/3 : K) * p * p * p * x * y * y + (2/15 : K) * p * p * x * x * x * x * x + (4/3 : K) * p * p * x * x * x * y * y + (2/3 : K) * p * p * x * y * y * y * y + (-8/315 : K) * p * x * x * x * x * x * x * x + (-8/15 : K) * p * x * x * x * x * x * y * y + (-8/9 : K) * p * x * x * x * y * y * y * y + (-8/45 : K) * p * x * y * y * y * y * y * y + (4/2835 : K) * x * x * x * x * x * x * x * x * x + (16/315 : K) * x * x * x * x * x * x * x * y * y + (8/45 : K) * x * x * x * x * x * y * y * y * y + (16/135 : K) * x * x * x * y * y * y * y * y * y + (4/315 : K) * x * y * y * y * y * y * y * y * y) * fam.GA 1 + ((65/189 : K) * p * p * p * p * x * y + (-92/189 : K) * p * p * p * x * x * x * y + (-92/189 : K) * p * p * p * x * y * y * y + (4/27 : K) * p * p * x * x * x * x * x * y + (40/81 : K) * p * p * x * x * x * y * y * y + (4/27 : K) * p * p * x * y * y * y * y * y + (-32/2835 : K) * p * x * x * x * x * x * x * x * y + (-32/405 : K) * p * x * x * x * x * x * y * y * y + (-32/405 : K) * p * x * x * x * y * y * y * y * y + (-32/2835 : K) * p * x * y * y * y * y * y * y * y) * fam.H 2 := by
  have e := h.hF (-8) (by norm_num)
  norm_num at e
  have eGA : fam.GA (-7) = _ := GB_m7 h.dual
  rw [e, F_m6 h, GB_m7 h, eGA]
  simp only [Fam.dual]
  ring

omit [CharZero K] in
theorem add4_rev (a b c d : K) : a + b + c + d = d + c + b + a := by ring

theorem H_m8 (h : Reductions p x y fam) :
    fam.H (-8) = ((65/189 : K) * p * p * p * p * x * y + (-92/189 : K) * p * p * p * x * x * x * y + (-92/189 : K) * p * p * p * x * y * y * y + (4/27 : K) * p * p * x * x * x * x * x * y + (40/81 : K) * p * p * x * x * x * y * y * y + (4/27 : K) * p * p * x * y * y * y * y * y + (-32/2835 : K) * p * x * x * x * x * x * x * x * y + (-32/405 : K) * p * x * x * x * x * x * y * y * y + (-32/405 : K) * p * x * x * x * y * y * y * y * y + (-32/2835 : K) * p * x * y * y * y * y * y * y * y) * fam.F 2 + ((1/12 : K) * p * p * p * p * x + (-2/9 : K) * p * p * p * x * x * x + (-2/3 : K) * p * p * p * x * y * y + (2/15 : K) * p * p * x * x * x * x * x + (4/3 : K) * p * p * x * x * x * y * y + (2/3 : K) * p * p * x * y * y * y * y + (-8/315 : K) * p * x * x * x * x * x * x * x + (-8/15 : K) * p * x * x * x * x * x * y * y + (-8/9 : K) * p * x * x * x * y * y * y * y + (-8/45 : K) * p * x * y * y * y * y * y * y + (4/2835 : K) * x * x * x * x * x * x * x * x * x + (16/315 : K) * x * x * x * x * x * x * x * y * y + (8/45 : K) * x * x * x * x * x * y * y * y * y + (16/135 : K) * x * x * x * y * y * y * y * y * y + (4/315 : K) * x * y * y * y * y * y * y * y * y) * fam.GB 1 + ((1/12 : K) * p * p * p * p * y + (-2/3 : K) * p * p * p * x * x * y + (-2/9 : K) * p * p * p * y * y * y + (2/3 : K) * p * p * x * x * x * x * y + (4/3 : K) * p * p * x * x * y * y * y + (2/15 : K) * p * p * y * y * y * y * y + (-8/45 : K) * p * x * x * x * x * x * x * y + (-8/9 : K) * p * x * x * x * x * y * y * y + (-8/15 : K) * p * x * x * y * y * y * y * y + (-8/315 : K) * p * y * y * y * y * y * y * y + (4/315 : K) * x * x * x * x * x * x * x * x * y + (16/135 : K) * x * x * x * x * x * x * y * y * y + (8/45 : K) * x * x * x * x * y * y * y * y * y + (16/315 : K) * x * x * y * y * y * y * y * y * y + (4/2835 : K) * y * y * y * y * y * y * y * y * y) * fam.GA 1 + ((-32/945 : K) * p * p * p * p * p + (65/378 : K) * p * p * p * p * x * x + (65/378 : K) * p * p * p * p * y * y + (-23/189 : K) * p * p * p * x * x * x * x + (-46/63 : K) * p * p * p * x * x * y * y + (-23/189 : K) * p * p * p * y * y * y * y + (2/81 : K) * p * p * x * x * x * x * x * x + (10/27 : K) * p * p * x * x * x * x * y * y + (10/27 : K) * p * p * x * x * y * y * y * y + (2/81 : K) * p * p * y * y * y * y * y * y + (-4/2835 : K) * p * x * x * x * x * x * x * x * x + (-16/405 : K) * p * x * x * x * x * x * x * y * y + (-8/81 : K) * p * x * x * x * x * y * y * y * y + (-16/405 : K) * p * x * x * y * y * y * y * y * y + (-4/2835 : K) * p * y * y * y * y * y * y * y * y) * fam.H 2 :=
  (F_m8 h.dual).trans (add4_rev ..)

end Ecpint.C12
