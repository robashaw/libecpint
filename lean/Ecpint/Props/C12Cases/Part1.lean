/- C12 — the 63 closed-form radial cases against the recurrence.

   The table of cases is closed under the recurrences: for a case (i, j, k) the lower entries (i−1, j, k−1), (i−1, j−1, k),
   (i−1, j, k+1) of eq 28 (for i = 0: (0, j−2, k), (0, j−1, k−1) of eqs 29/33) are cases again.  So a case is proved by ONE
   step of the recurrence (`Q_step`, `Q_zero_step`) from the earlier cases, and what remains is an identity between the
   generated expressions, linear in the base integrals, with powers of x and y in the denominators.  With the integer
   coefficients evaluated (`radial_eval`) and the inverses pushed down to `x⁻¹`, `y⁻¹`, `2⁻¹` it is decided by `grobner`,
   which normalises modulo `x * x⁻¹ = 1`, `y * y⁻¹ = 1`, `2 * 2⁻¹ = 1` (`field_simp` is slow on these sums: every numerator
   is an atom to it, compared with every other).
   The exceptions are the five cases with k = 1, whose entry at k = 0 is not in the table: those entries have lemmas of
   their own (`Q_0_2_0`, `Q_0_4_0`, `Q_1_3_0`, `Q_2_4_0`, and `Q_0_3_m1` one level further down, which the last three rest on), from which
   the five cases are steps like the others. -/
import Ecpint.Props.C12Cases.Tactic
import Ecpint.Lemmas.RadialEval
import Mathlib.Algebra.CharP.Basic  -- `CharZero K` as `Lean.Grind.IsCharP K 0`, without which `grobner` does not invert numerals
namespace Ecpint.C12
open Ecpint.RadialRec Ecpint.Gen

section
/- The statements are uniform over the table.  At second order 0, and at second order 1 above k = 1, a case is one or two
   base integrals read off `valuesOf`: neither `x ≠ 0`, `y ≠ 0`, the reduction relations nor characteristic 0 are needed.
   Nor is characteristic 0 at second order 2 above k = 2, one step from these. -/
variable {K : Type} [Field K]

theorem case_2 (p x y : K) (_ : x ≠ 0) (_ : y ≠ 0) (fam : Fam K) (_ : Reductions p x y fam) :
    radialCase_2 p x y (x*x) (y*y) (p*p) (valuesOf fam) (fam.GA 1) (fam.GB 1) (fam.H 2) = Q p x y fam 0 0 2 := by
  rw [Q_zero_zero]
  norm_num [radialCase_2, valuesOf]

theorem case_4 (p x y : K) (_ : x ≠ 0) (_ : y ≠ 0) (fam : Fam K) (_ : Reductions p x y fam) :
    radialCase_4 p x y (x*x) (y*y) (p*p) (valuesOf fam) (fam.GA 1) (fam.GB 1) (fam.H 2) = Q p x y fam 0 0 4 := by
  rw [Q_zero_zero]
  norm_num [radialCase_4, valuesOf]

theorem case_6 (p x y : K) (_ : x ≠ 0) (_ : y ≠ 0) (fam : Fam K) (_ : Reductions p x y fam) :
    radialCase_6 p x y (x*x) (y*y) (p*p) (valuesOf fam) (fam.GA 1) (fam.GB 1) (fam.H 2) = Q p x y fam 0 0 6 := by
  rw [Q_zero_zero]
  norm_num [radialCase_6, valuesOf]

theorem case_8 (p x y : K) (_ : x ≠ 0) (_ : y ≠ 0) (fam : Fam K) (_ : Reductions p x y fam) :
    radialCase_8 p x y (x*x) (y*y) (p*p) (valuesOf fam) (fam.GA 1) (fam.GB 1) (fam.H 2) = Q p x y fam 0 0 8 := by
  rw [Q_zero_zero]
  norm_num [radialCase_8, valuesOf]

theorem case_10 (p x y : K) (_ : x ≠ 0) (_ : y ≠ 0) (fam : Fam K) (_ : Reductions p x y fam) :
    radialCase_10 p x y (x*x) (y*y) (p*p) (valuesOf fam) (fam.GA 1) (fam.GB 1) (fam.H 2) = Q p x y fam 0 0 10 := by
  rw [Q_zero_zero]
  norm_num [radialCase_10, valuesOf]

theorem case_12 (p x y : K) (_ : x ≠ 0) (_ : y ≠ 0) (fam : Fam K) (_ : Reductions p x y fam) :
    radialCase_12 p x y (x*x) (y*y) (p*p) (valuesOf fam) (fam.GA 1) (fam.GB 1) (fam.H 2) = Q p x y fam 0 0 12 := by
  rw [Q_zero_zero]
  norm_num [radialCase_12, valuesOf]

theorem case_103 (p x y : K) (_ : x ≠ 0) (_ : y ≠ 0) (fam : Fam K) (_ : Reductions p x y fam) :
    radialCase_103 p x y (x*x) (y*y) (p*p) (valuesOf fam) (fam.GA 1) (fam.GB 1) (fam.H 2) = Q p x y fam 0 1 3 := by
  rw [Q_zero_one]
  norm_num [radialCase_103, valuesOf]
  ring

theorem case_105 (p x y : K) (_ : x ≠ 0) (_ : y ≠ 0) (fam : Fam K) (_ : Reductions p x y fam) :
    radialCase_105 p x y (x*x) (y*y) (p*p) (valuesOf fam) (fam.GA 1) (fam.GB 1) (fam.H 2) = Q p x y fam 0 1 5 := by
  rw [Q_zero_one]
  norm_num [radialCase_105, valuesOf]
  ring

theorem case_107 (p x y : K) (_ : x ≠ 0) (_ : y ≠ 0) (fam : Fam K) (_ : Reductions p x y fam) :
    radialCase_107 p x y (x*x) (y*y) (p*p) (valuesOf fam) (fam.GA 1) (fam.GB 1) (fam.H 2) = Q p x y fam 0 1 7 := by
  rw [Q_zero_one]
  norm_num [radialCase_107, valuesOf]
  ring

theorem case_109 (p x y : K) (_ : x ≠ 0) (_ : y ≠ 0) (fam : Fam K) (_ : Reductions p x y fam) :
    radialCase_109 p x y (x*x) (y*y) (p*p) (valuesOf fam) (fam.GA 1) (fam.GB 1) (fam.H 2) = Q p x y fam 0 1 9 := by
  rw [Q_zero_one]
  norm_num [radialCase_109, valuesOf]
  ring

theorem case_111 (p x y : K) (_ : x ≠ 0) (_ : y ≠ 0) (fam : Fam K) (_ : Reductions p x y fam) :
    radialCase_111 p x y (x*x) (y*y) (p*p) (valuesOf fam) (fam.GA 1) (fam.GB 1) (fam.H 2) = Q p x y fam 0 1 11 := by
  rw [Q_zero_one]
  norm_num [radialCase_111, valuesOf]
  ring

theorem case_204 (p x y : K) (hx : x ≠ 0) (hy : y ≠ 0) (fam : Fam K) (h : Reductions p x y fam) :
    radialCase_204 p x y (x*x) (y*y) (p*p) (valuesOf fam) (fam.GA 1) (fam.GB 1) (fam.H 2) = Q p x y fam 0 2 4 := by
  rw [Q_zero_step p x y fam 0 4 (case_4 p x y hx hy fam h) (case_103 p x y hx hy fam h)]
  simp only [radialCase_204, radialCase_4, radialCase_103, radial_eval, div_eq_mul_inv, mul_inv]
  grobner

theorem case_206 (p x y : K) (hx : x ≠ 0) (hy : y ≠ 0) (fam : Fam K) (h : Reductions p x y fam) :
    radialCase_206 p x y (x*x) (y*y) (p*p) (valuesOf fam) (fam.GA 1) (fam.GB 1) (fam.H 2) = Q p x y fam 0 2 6 := by
  rw [Q_zero_step p x y fam 0 6 (case_6 p x y hx hy fam h) (case_105 p x y hx hy fam h)]
  simp only [radialCase_206, radialCase_6, radialCase_105, radial_eval, div_eq_mul_inv, mul_inv]
  grobner

theorem case_208 (p x y : K) (hx : x ≠ 0) (hy : y ≠ 0) (fam : Fam K) (h : Reductions p x y fam) :
    radialCase_208 p x y (x*x) (y*y) (p*p) (valuesOf fam) (fam.GA 1) (fam.GB 1) (fam.H 2) = Q p x y fam 0 2 8 := by
  rw [Q_zero_step p x y fam 0 8 (case_8 p x y hx hy fam h) (case_107 p x y hx hy fam h)]
  simp only [radialCase_208, radialCase_8, radialCase_107, radial_eval, div_eq_mul_inv, mul_inv]
  grobner

theorem case_210 (p x y : K) (hx : x ≠ 0) (hy : y ≠ 0) (fam : Fam K) (h : Reductions p x y fam) :
    radialCase_210 p x y (x*x) (y*y) (p*p) (valuesOf fam) (fam.GA 1) (fam.GB 1) (fam.H 2) = Q p x y fam 0 2 10 := by
  rw [Q_zero_step p x y fam 0 10 (case_10 p x y hx hy fam h) (case_109 p x y hx hy fam h)]
  simp only [radialCase_210, radialCase_10, radialCase_109, radial_eval, div_eq_mul_inv, mul_inv]
  grobner

end

variable {K : Type} [Field K] [CharZero K]

theorem case_101 (p x y : K) (_ : x ≠ 0) (hy : y ≠ 0) (fam : Fam K) (h : Reductions p x y fam) :
    radialCase_101 p x y (x*x) (y*y) (p*p) (valuesOf fam) (fam.GA 1) (fam.GB 1) (fam.H 2) = Q p x y fam 0 1 1 := by
  rw [Q_zero_one]
  norm_num [radialCase_101, valuesOf, F_0 h]
  field_simp
  ring

theorem case_202 (p x y : K) (hx : x ≠ 0) (hy : y ≠ 0) (fam : Fam K) (h : Reductions p x y fam) :
    radialCase_202 p x y (x*x) (y*y) (p*p) (valuesOf fam) (fam.GA 1) (fam.GB 1) (fam.H 2) = Q p x y fam 0 2 2 := by
  rw [Q_zero_step p x y fam 0 2 (case_2 p x y hx hy fam h) (case_101 p x y hx hy fam h)]
  simp only [radialCase_202, radialCase_2, radialCase_101, radial_eval, div_eq_mul_inv, mul_inv]
  grobner

/-! ### entries below the table

The five cases with k = 1 reach one entry with k = 0 each: (0,2,0) (twice), (0,4,0), (1,3,0), (2,4,0).  These, and (0,3,−1)
which three of them pass through, are given here in the values the code is handed (of which only `values[0]` = F_2, G^A_1
and H_2 occur).  At first order 0 they are unrolled (`radial_eval`) to the base integrals F_N, G^B_N with N ≤ 0, which the
closed forms of `Closed.lean` eliminate (denominators are cleared before the closed forms are substituted: they are
large); above first order 0 they are steps of the recurrence like the cases.  The right sides were computed outside Lean
by the same route. -/

theorem Q_0_2_0 (p x y : K) (hy : y ≠ 0) (fam : Fam K) (h : Reductions p x y fam) :
    Q p x y fam 0 2 0 =
      (p * (p - x * x) / (y * y)) * valuesOf fam 0
      + (x * (2 * x * x - 3 * p - 2 * y * y) / (2 * y * y)) * fam.GA 1
      + (p * x / y) * fam.H 2 := by
  simp only [radial_eval, valuesOf_zero]
  field_simp
  simp only [F_0 h, GB_m1 h, F_m2 h]
  ring

theorem Q_0_3_m1 (p x y : K) (hy : y ≠ 0) (fam : Fam K) (h : Reductions p x y fam) :
    Q p x y fam 0 3 (-1) =
      (p * (4 * p * p + 2 * x * x * x * x - 9 * p * x * x - 2 * x * x * y * y) / (4 * y * y * y)) * valuesOf fam 0
      + (x * (20 * p * x * x + 8 * x * x * y * y - 15 * p * p - 12 * p * y * y - 4 * x * x * x * x - 4 * y * y * y * y) / (8 * y * y * y)) * fam.GA 1
      + (p * x * (7 * p + 2 * y * y - 2 * x * x) / (4 * y * y)) * fam.H 2 := by
  simp only [radial_eval, valuesOf_zero]
  field_simp
  simp only [GB_m1 h, F_m2 h, GB_m3 h, F_m4 h]
  ring

theorem Q_0_4_0 (p x y : K) (hy : y ≠ 0) (fam : Fam K) (h : Reductions p x y fam) :
    Q p x y fam 0 4 0 =
      (p * (63 * p * x * x + 8 * p * y * y + 6 * x * x * y * y - 28 * p * p - 14 * x * x * x * x) / (8 * y * y * y * y)) * valuesOf fam 0
      + (x * (105 * p * p + 60 * p * y * y + 28 * x * x * x * x + 12 * y * y * y * y - 140 * p * x * x - 40 * x * x * y * y) / (16 * y * y * y * y)) * fam.GA 1
      + (p * x * (14 * x * x - 49 * p - 6 * y * y) / (8 * y * y * y)) * fam.H 2 := by
  rw [Q_zero_step p x y fam 2 0 (Q_0_2_0 p x y hy fam h).symm (Q_0_3_m1 p x y hy fam h).symm]
  simp only [radial_eval, div_eq_mul_inv, mul_inv]
  grobner

theorem case_301 (p x y : K) (hx : x ≠ 0) (hy : y ≠ 0) (fam : Fam K) (h : Reductions p x y fam) :
    radialCase_301 p x y (x*x) (y*y) (p*p) (valuesOf fam) (fam.GA 1) (fam.GB 1) (fam.H 2) = Q p x y fam 0 3 1 := by
  rw [Q_zero_step p x y fam 1 1 (case_101 p x y hx hy fam h) (Q_0_2_0 p x y hy fam h).symm]
  simp only [radialCase_301, radialCase_101, radial_eval, div_eq_mul_inv, mul_inv]
  grobner

theorem case_303 (p x y : K) (hx : x ≠ 0) (hy : y ≠ 0) (fam : Fam K) (h : Reductions p x y fam) :
    radialCase_303 p x y (x*x) (y*y) (p*p) (valuesOf fam) (fam.GA 1) (fam.GB 1) (fam.H 2) = Q p x y fam 0 3 3 := by
  rw [Q_zero_step p x y fam 1 3 (case_103 p x y hx hy fam h) (case_202 p x y hx hy fam h)]
  simp only [radialCase_303, radialCase_103, radialCase_202, radial_eval, div_eq_mul_inv, mul_inv]
  grobner

theorem case_305 (p x y : K) (hx : x ≠ 0) (hy : y ≠ 0) (fam : Fam K) (h : Reductions p x y fam) :
    radialCase_305 p x y (x*x) (y*y) (p*p) (valuesOf fam) (fam.GA 1) (fam.GB 1) (fam.H 2) = Q p x y fam 0 3 5 := by
  rw [Q_zero_step p x y fam 1 5 (case_105 p x y hx hy fam h) (case_204 p x y hx hy fam h)]
  simp only [radialCase_305, radialCase_105, radialCase_204, radial_eval, div_eq_mul_inv, mul_inv]
  grobner

theorem case_307 (p x y : K) (hx : x ≠ 0) (hy : y ≠ 0) (fam : Fam K) (h : Reductions p x y fam) :
    radialCase_307 p x y (x*x) (y*y) (p*p) (valuesOf fam) (fam.GA 1) (fam.GB 1) (fam.H 2) = Q p x y fam 0 3 7 := by
  rw [Q_zero_step p x y fam 1 7 (case_107 p x y hx hy fam h) (case_206 p x y hx hy fam h)]
  simp only [radialCase_307, radialCase_107, radialCase_206, radial_eval, div_eq_mul_inv, mul_inv]
  grobner

theorem case_309 (p x y : K) (hx : x ≠ 0) (hy : y ≠ 0) (fam : Fam K) (h : Reductions p x y fam) :
    radialCase_309 p x y (x*x) (y*y) (p*p) (valuesOf fam) (fam.GA 1) (fam.GB 1) (fam.H 2) = Q p x y fam 0 3 9 := by
  rw [Q_zero_step p x y fam 1 9 (case_109 p x y hx hy fam h) (case_208 p x y hx hy fam h)]
  simp only [radialCase_309, radialCase_109, radialCase_208, radial_eval, div_eq_mul_inv, mul_inv]
  grobner

theorem case_402 (p x y : K) (hx : x ≠ 0) (hy : y ≠ 0) (fam : Fam K) (h : Reductions p x y fam) :
    radialCase_402 p x y (x*x) (y*y) (p*p) (valuesOf fam) (fam.GA 1) (fam.GB 1) (fam.H 2) = Q p x y fam 0 4 2 := by
  rw [Q_zero_step p x y fam 2 2 (case_202 p x y hx hy fam h) (case_301 p x y hx hy fam h)]
  simp only [radialCase_402, radialCase_202, radialCase_301, radial_eval, div_eq_mul_inv, mul_inv]
  grobner

theorem case_404 (p x y : K) (hx : x ≠ 0) (hy : y ≠ 0) (fam : Fam K) (h : Reductions p x y fam) :
    radialCase_404 p x y (x*x) (y*y) (p*p) (valuesOf fam) (fam.GA 1) (fam.GB 1) (fam.H 2) = Q p x y fam 0 4 4 := by
  rw [Q_zero_step p x y fam 2 4 (case_204 p x y hx hy fam h) (case_303 p x y hx hy fam h)]
  simp only [radialCase_404, radialCase_204, radialCase_303, radial_eval, div_eq_mul_inv, mul_inv]
  grobner

theorem case_406 (p x y : K) (hx : x ≠ 0) (hy : y ≠ 0) (fam : Fam K) (h : Reductions p x y fam) :
    radialCase_406 p x y (x*x) (y*y) (p*p) (valuesOf fam) (fam.GA 1) (fam.GB 1) (fam.H 2) = Q p x y fam 0 4 6 := by
  rw [Q_zero_step p x y fam 2 6 (case_206 p x y hx hy fam h) (case_305 p x y hx hy fam h)]
  simp only [radialCase_406, radialCase_206, radialCase_305, radial_eval, div_eq_mul_inv, mul_inv]
  grobner

theorem case_408 (p x y : K) (hx : x ≠ 0) (hy : y ≠ 0) (fam : Fam K) (h : Reductions p x y fam) :
    radialCase_408 p x y (x*x) (y*y) (p*p) (valuesOf fam) (fam.GA 1) (fam.GB 1) (fam.H 2) = Q p x y fam 0 4 8 := by
  rw [Q_zero_step p x y fam 2 8 (case_208 p x y hx hy fam h) (case_307 p x y hx hy fam h)]
  simp only [radialCase_408, radialCase_208, radialCase_307, radial_eval, div_eq_mul_inv, mul_inv]
  grobner

theorem case_10102 (p x y : K) (hx : x ≠ 0) (hy : y ≠ 0) (fam : Fam K) (h : Reductions p x y fam) :
    radialCase_10102 p x y (x*x) (y*y) (p*p) (valuesOf fam) (fam.GA 1) (fam.GB 1) (fam.H 2) = Q p x y fam 1 1 2 := by
  rw [Q_step p x y fam 0 0 2 (case_101 p x y hx hy fam h) (case_2 p x y hx hy fam h) (case_103 p x y hx hy fam h)]
  simp only [radialCase_10102, radialCase_101, radialCase_2, radialCase_103, radial_eval, div_eq_mul_inv, mul_inv]
  grobner

theorem case_10104 (p x y : K) (hx : x ≠ 0) (hy : y ≠ 0) (fam : Fam K) (h : Reductions p x y fam) :
    radialCase_10104 p x y (x*x) (y*y) (p*p) (valuesOf fam) (fam.GA 1) (fam.GB 1) (fam.H 2) = Q p x y fam 1 1 4 := by
  rw [Q_step p x y fam 0 0 4 (case_103 p x y hx hy fam h) (case_4 p x y hx hy fam h) (case_105 p x y hx hy fam h)]
  simp only [radialCase_10104, radialCase_103, radialCase_4, radialCase_105, radial_eval, div_eq_mul_inv, mul_inv]
  grobner

theorem case_10106 (p x y : K) (hx : x ≠ 0) (hy : y ≠ 0) (fam : Fam K) (h : Reductions p x y fam) :
    radialCase_10106 p x y (x*x) (y*y) (p*p) (valuesOf fam) (fam.GA 1) (fam.GB 1) (fam.H 2) = Q p x y fam 1 1 6 := by
  rw [Q_step p x y fam 0 0 6 (case_105 p x y hx hy fam h) (case_6 p x y hx hy fam h) (case_107 p x y hx hy fam h)]
  simp only [radialCase_10106, radialCase_105, radialCase_6, radialCase_107, radial_eval, div_eq_mul_inv, mul_inv]
  grobner

theorem case_10108 (p x y : K) (hx : x ≠ 0) (hy : y ≠ 0) (fam : Fam K) (h : Reductions p x y fam) :
    radialCase_10108 p x y (x*x) (y*y) (p*p) (valuesOf fam) (fam.GA 1) (fam.GB 1) (fam.H 2) = Q p x y fam 1 1 8 := by
  rw [Q_step p x y fam 0 0 8 (case_107 p x y hx hy fam h) (case_8 p x y hx hy fam h) (case_109 p x y hx hy fam h)]
  simp only [radialCase_10108, radialCase_107, radialCase_8, radialCase_109, radial_eval, div_eq_mul_inv, mul_inv]
  grobner

/- Case 10110 = (1,1,10).  In the repository as pinned this case carried −1/(4xy) on F₈ and +1/(2x) on G^B₉ (the generator
   parsed the two-digit k of its own term label as k = 1); the statement below was then FALSE, which is how the defect was
   confirmed after the numerical oracle flagged it.  With the repair ("fix: closed-form radial case (l1,l2,k) = (1,1,10) …")
   the translated case proves like the other 62. -/
theorem case_10110 (p x y : K) (hx : x ≠ 0) (hy : y ≠ 0) (fam : Fam K) (h : Reductions p x y fam) :
    radialCase_10110 p x y (x*x) (y*y) (p*p) (valuesOf fam) (fam.GA 1) (fam.GB 1) (fam.H 2) = Q p x y fam 1 1 10 := by
  rw [Q_step p x y fam 0 0 10 (case_109 p x y hx hy fam h) (case_10 p x y hx hy fam h) (case_111 p x y hx hy fam h)]
  simp only [radialCase_10110, radialCase_109, radialCase_10, radialCase_111, radial_eval, div_eq_mul_inv, mul_inv]
  grobner

theorem case_10201 (p x y : K) (hx : x ≠ 0) (hy : y ≠ 0) (fam : Fam K) (h : Reductions p x y fam) :
    radialCase_10201 p x y (x*x) (y*y) (p*p) (valuesOf fam) (fam.GA 1) (fam.GB 1) (fam.H 2) = Q p x y fam 1 2 1 := by
  rw [Q_step p x y fam 0 1 1 (Q_0_2_0 p x y hy fam h).symm (case_101 p x y hx hy fam h) (case_202 p x y hx hy fam h)]
  simp only [radialCase_10201, radialCase_101, radialCase_202, radial_eval, div_eq_mul_inv, mul_inv]
  grobner

theorem case_10203 (p x y : K) (hx : x ≠ 0) (hy : y ≠ 0) (fam : Fam K) (h : Reductions p x y fam) :
    radialCase_10203 p x y (x*x) (y*y) (p*p) (valuesOf fam) (fam.GA 1) (fam.GB 1) (fam.H 2) = Q p x y fam 1 2 3 := by
  rw [Q_step p x y fam 0 1 3 (case_202 p x y hx hy fam h) (case_103 p x y hx hy fam h) (case_204 p x y hx hy fam h)]
  simp only [radialCase_10203, radialCase_202, radialCase_103, radialCase_204, radial_eval, div_eq_mul_inv, mul_inv]
  grobner

theorem case_10205 (p x y : K) (hx : x ≠ 0) (hy : y ≠ 0) (fam : Fam K) (h : Reductions p x y fam) :
    radialCase_10205 p x y (x*x) (y*y) (p*p) (valuesOf fam) (fam.GA 1) (fam.GB 1) (fam.H 2) = Q p x y fam 1 2 5 := by
  rw [Q_step p x y fam 0 1 5 (case_204 p x y hx hy fam h) (case_105 p x y hx hy fam h) (case_206 p x y hx hy fam h)]
  simp only [radialCase_10205, radialCase_204, radialCase_105, radialCase_206, radial_eval, div_eq_mul_inv, mul_inv]
  grobner

theorem case_10207 (p x y : K) (hx : x ≠ 0) (hy : y ≠ 0) (fam : Fam K) (h : Reductions p x y fam) :
    radialCase_10207 p x y (x*x) (y*y) (p*p) (valuesOf fam) (fam.GA 1) (fam.GB 1) (fam.H 2) = Q p x y fam 1 2 7 := by
  rw [Q_step p x y fam 0 1 7 (case_206 p x y hx hy fam h) (case_107 p x y hx hy fam h) (case_208 p x y hx hy fam h)]
  simp only [radialCase_10207, radialCase_206, radialCase_107, radialCase_208, radial_eval, div_eq_mul_inv, mul_inv]
  grobner

theorem case_10209 (p x y : K) (hx : x ≠ 0) (hy : y ≠ 0) (fam : Fam K) (h : Reductions p x y fam) :
    radialCase_10209 p x y (x*x) (y*y) (p*p) (valuesOf fam) (fam.GA 1) (fam.GB 1) (fam.H 2) = Q p x y fam 1 2 9 := by
  rw [Q_step p x y fam 0 1 9 (case_208 p x y hx hy fam h) (case_109 p x y hx hy fam h) (case_210 p x y hx hy fam h)]
  simp only [radialCase_10209, radialCase_208, radialCase_109, radialCase_210, radial_eval, div_eq_mul_inv, mul_inv]
  grobner

theorem case_10302 (p x y : K) (hx : x ≠ 0) (hy : y ≠ 0) (fam : Fam K) (h : Reductions p x y fam) :
    radialCase_10302 p x y (x*x) (y*y) (p*p) (valuesOf fam) (fam.GA 1) (fam.GB 1) (fam.H 2) = Q p x y fam 1 3 2 := by
  rw [Q_step p x y fam 0 2 2 (case_301 p x y hx hy fam h) (case_202 p x y hx hy fam h) (case_303 p x y hx hy fam h)]
  simp only [radialCase_10302, radialCase_301, radialCase_202, radialCase_303, radial_eval, div_eq_mul_inv, mul_inv]
  grobner

theorem case_10304 (p x y : K) (hx : x ≠ 0) (hy : y ≠ 0) (fam : Fam K) (h : Reductions p x y fam) :
    radialCase_10304 p x y (x*x) (y*y) (p*p) (valuesOf fam) (fam.GA 1) (fam.GB 1) (fam.H 2) = Q p x y fam 1 3 4 := by
  rw [Q_step p x y fam 0 2 4 (case_303 p x y hx hy fam h) (case_204 p x y hx hy fam h) (case_305 p x y hx hy fam h)]
  simp only [radialCase_10304, radialCase_303, radialCase_204, radialCase_305, radial_eval, div_eq_mul_inv, mul_inv]
  grobner

theorem case_10306 (p x y : K) (hx : x ≠ 0) (hy : y ≠ 0) (fam : Fam K) (h : Reductions p x y fam) :
    radialCase_10306 p x y (x*x) (y*y) (p*p) (valuesOf fam) (fam.GA 1) (fam.GB 1) (fam.H 2) = Q p x y fam 1 3 6 := by
  rw [Q_step p x y fam 0 2 6 (case_305 p x y hx hy fam h) (case_206 p x y hx hy fam h) (case_307 p x y hx hy fam h)]
  simp only [radialCase_10306, radialCase_305, radialCase_206, radialCase_307, radial_eval, div_eq_mul_inv, mul_inv]
  grobner

theorem case_10308 (p x y : K) (hx : x ≠ 0) (hy : y ≠ 0) (fam : Fam K) (h : Reductions p x y fam) :
    radialCase_10308 p x y (x*x) (y*y) (p*p) (valuesOf fam) (fam.GA 1) (fam.GB 1) (fam.H 2) = Q p x y fam 1 3 8 := by
  rw [Q_step p x y fam 0 2 8 (case_307 p x y hx hy fam h) (case_208 p x y hx hy fam h) (case_309 p x y hx hy fam h)]
  simp only [radialCase_10308, radialCase_307, radialCase_208, radialCase_309, radial_eval, div_eq_mul_inv, mul_inv]
  grobner

theorem case_10401 (p x y : K) (hx : x ≠ 0) (hy : y ≠ 0) (fam : Fam K) (h : Reductions p x y fam) :
    radialCase_10401 p x y (x*x) (y*y) (p*p) (valuesOf fam) (fam.GA 1) (fam.GB 1) (fam.H 2) = Q p x y fam 1 4 1 := by
  rw [Q_step p x y fam 0 3 1 (Q_0_4_0 p x y hy fam h).symm (case_301 p x y hx hy fam h) (case_402 p x y hx hy fam h)]
  simp only [radialCase_10401, radialCase_301, radialCase_402, radial_eval, div_eq_mul_inv, mul_inv]
  grobner

theorem case_10403 (p x y : K) (hx : x ≠ 0) (hy : y ≠ 0) (fam : Fam K) (h : Reductions p x y fam) :
    radialCase_10403 p x y (x*x) (y*y) (p*p) (valuesOf fam) (fam.GA 1) (fam.GB 1) (fam.H 2) = Q p x y fam 1 4 3 := by
  rw [Q_step p x y fam 0 3 3 (case_402 p x y hx hy fam h) (case_303 p x y hx hy fam h) (case_404 p x y hx hy fam h)]
  simp only [radialCase_10403, radialCase_402, radialCase_303, radialCase_404, radial_eval, div_eq_mul_inv, mul_inv]
  grobner

theorem case_10405 (p x y : K) (hx : x ≠ 0) (hy : y ≠ 0) (fam : Fam K) (h : Reductions p x y fam) :
    radialCase_10405 p x y (x*x) (y*y) (p*p) (valuesOf fam) (fam.GA 1) (fam.GB 1) (fam.H 2) = Q p x y fam 1 4 5 := by
  rw [Q_step p x y fam 0 3 5 (case_404 p x y hx hy fam h) (case_305 p x y hx hy fam h) (case_406 p x y hx hy fam h)]
  simp only [radialCase_10405, radialCase_404, radialCase_305, radialCase_406, radial_eval, div_eq_mul_inv, mul_inv]
  grobner

theorem case_10407 (p x y : K) (hx : x ≠ 0) (hy : y ≠ 0) (fam : Fam K) (h : Reductions p x y fam) :
    radialCase_10407 p x y (x*x) (y*y) (p*p) (valuesOf fam) (fam.GA 1) (fam.GB 1) (fam.H 2) = Q p x y fam 1 4 7 := by
  rw [Q_step p x y fam 0 3 7 (case_406 p x y hx hy fam h) (case_307 p x y hx hy fam h) (case_408 p x y hx hy fam h)]
  simp only [radialCase_10407, radialCase_406, radialCase_307, radialCase_408, radial_eval, div_eq_mul_inv, mul_inv]
  grobner

theorem case_20202 (p x y : K) (hx : x ≠ 0) (hy : y ≠ 0) (fam : Fam K) (h : Reductions p x y fam) :
    radialCase_20202 p x y (x*x) (y*y) (p*p) (valuesOf fam) (fam.GA 1) (fam.GB 1) (fam.H 2) = Q p x y fam 2 2 2 := by
  rw [Q_step p x y fam 1 1 2 (case_10201 p x y hx hy fam h) (case_10102 p x y hx hy fam h) (case_10203 p x y hx hy fam h)]
  simp only [radialCase_20202, radialCase_10201, radialCase_10102, radialCase_10203, radial_eval, div_eq_mul_inv, mul_inv]
  grobner

theorem case_20204 (p x y : K) (hx : x ≠ 0) (hy : y ≠ 0) (fam : Fam K) (h : Reductions p x y fam) :
    radialCase_20204 p x y (x*x) (y*y) (p*p) (valuesOf fam) (fam.GA 1) (fam.GB 1) (fam.H 2) = Q p x y fam 2 2 4 := by
  rw [Q_step p x y fam 1 1 4 (case_10203 p x y hx hy fam h) (case_10104 p x y hx hy fam h) (case_10205 p x y hx hy fam h)]
  simp only [radialCase_20204, radialCase_10203, radialCase_10104, radialCase_10205, radial_eval, div_eq_mul_inv, mul_inv]
  grobner

theorem case_20206 (p x y : K) (hx : x ≠ 0) (hy : y ≠ 0) (fam : Fam K) (h : Reductions p x y fam) :
    radialCase_20206 p x y (x*x) (y*y) (p*p) (valuesOf fam) (fam.GA 1) (fam.GB 1) (fam.H 2) = Q p x y fam 2 2 6 := by
  rw [Q_step p x y fam 1 1 6 (case_10205 p x y hx hy fam h) (case_10106 p x y hx hy fam h) (case_10207 p x y hx hy fam h)]
  simp only [radialCase_20206, radialCase_10205, radialCase_10106, radialCase_10207, radial_eval, div_eq_mul_inv, mul_inv]
  grobner

theorem case_20208 (p x y : K) (hx : x ≠ 0) (hy : y ≠ 0) (fam : Fam K) (h : Reductions p x y fam) :
    radialCase_20208 p x y (x*x) (y*y) (p*p) (valuesOf fam) (fam.GA 1) (fam.GB 1) (fam.H 2) = Q p x y fam 2 2 8 := by
  rw [Q_step p x y fam 1 1 8 (case_10207 p x y hx hy fam h) (case_10108 p x y hx hy fam h) (case_10209 p x y hx hy fam h)]
  simp only [radialCase_20208, radialCase_10207, radialCase_10108, radialCase_10209, radial_eval, div_eq_mul_inv, mul_inv]
  grobner

theorem Q_1_3_0 (p x y : K) (hx : x ≠ 0) (hy : y ≠ 0) (fam : Fam K) (h : Reductions p x y fam) :
    Q p x y fam 1 3 0 =
      (p * (2 * x * x * x * x - p * p - 4 * p * x * x) / (2 * x * y * y * y)) * valuesOf fam 0
      + (x * x * (5 * p + 2 * y * y - 2 * x * x) / (2 * y * y * y)) * fam.GA 1
      + (p * (p - x * x) / (y * y)) * fam.H 2 := by
  rw [Q_step p x y fam 0 2 0 (Q_0_3_m1 p x y hy fam h).symm (Q_0_2_0 p x y hy fam h).symm (case_301 p x y hx hy fam h)]
  simp only [radialCase_301, radial_eval, div_eq_mul_inv, mul_inv]
  grobner

theorem case_20301 (p x y : K) (hx : x ≠ 0) (hy : y ≠ 0) (fam : Fam K) (h : Reductions p x y fam) :
    radialCase_20301 p x y (x*x) (y*y) (p*p) (valuesOf fam) (fam.GA 1) (fam.GB 1) (fam.H 2) = Q p x y fam 2 3 1 := by
  rw [Q_step p x y fam 1 2 1 (Q_1_3_0 p x y hx hy fam h).symm (case_10201 p x y hx hy fam h) (case_10302 p x y hx hy fam h)]
  simp only [radialCase_20301, radialCase_10201, radialCase_10302, radial_eval, div_eq_mul_inv, mul_inv]
  grobner

theorem case_20303 (p x y : K) (hx : x ≠ 0) (hy : y ≠ 0) (fam : Fam K) (h : Reductions p x y fam) :
    radialCase_20303 p x y (x*x) (y*y) (p*p) (valuesOf fam) (fam.GA 1) (fam.GB 1) (fam.H 2) = Q p x y fam 2 3 3 := by
  rw [Q_step p x y fam 1 2 3 (case_10302 p x y hx hy fam h) (case_10203 p x y hx hy fam h) (case_10304 p x y hx hy fam h)]
  simp only [radialCase_20303, radialCase_10302, radialCase_10203, radialCase_10304, radial_eval, div_eq_mul_inv, mul_inv]
  grobner

theorem case_20305 (p x y : K) (hx : x ≠ 0) (hy : y ≠ 0) (fam : Fam K) (h : Reductions p x y fam) :
    radialCase_20305 p x y (x*x) (y*y) (p*p) (valuesOf fam) (fam.GA 1) (fam.GB 1) (fam.H 2) = Q p x y fam 2 3 5 := by
  rw [Q_step p x y fam 1 2 5 (case_10304 p x y hx hy fam h) (case_10205 p x y hx hy fam h) (case_10306 p x y hx hy fam h)]
  simp only [radialCase_20305, radialCase_10304, radialCase_10205, radialCase_10306, radial_eval, div_eq_mul_inv, mul_inv]
  grobner

theorem case_20307 (p x y : K) (hx : x ≠ 0) (hy : y ≠ 0) (fam : Fam K) (h : Reductions p x y fam) :
    radialCase_20307 p x y (x*x) (y*y) (p*p) (valuesOf fam) (fam.GA 1) (fam.GB 1) (fam.H 2) = Q p x y fam 2 3 7 := by
  rw [Q_step p x y fam 1 2 7 (case_10306 p x y hx hy fam h) (case_10207 p x y hx hy fam h) (case_10308 p x y hx hy fam h)]
  simp only [radialCase_20307, radialCase_10306, radialCase_10207, radialCase_10308, radial_eval, div_eq_mul_inv, mul_inv]
  grobner

theorem case_20402 (p x y : K) (hx : x ≠ 0) (hy : y ≠ 0) (fam : Fam K) (h : Reductions p x y fam) :
    radialCase_20402 p x y (x*x) (y*y) (p*p) (valuesOf fam) (fam.GA 1) (fam.GB 1) (fam.H 2) = Q p x y fam 2 4 2 := by
  rw [Q_step p x y fam 1 3 2 (case_10401 p x y hx hy fam h) (case_10302 p x y hx hy fam h) (case_10403 p x y hx hy fam h)]
  simp only [radialCase_20402, radialCase_10401, radialCase_10302, radialCase_10403, radial_eval, div_eq_mul_inv, mul_inv]
  grobner

theorem case_20404 (p x y : K) (hx : x ≠ 0) (hy : y ≠ 0) (fam : Fam K) (h : Reductions p x y fam) :
    radialCase_20404 p x y (x*x) (y*y) (p*p) (valuesOf fam) (fam.GA 1) (fam.GB 1) (fam.H 2) = Q p x y fam 2 4 4 := by
  rw [Q_step p x y fam 1 3 4 (case_10403 p x y hx hy fam h) (case_10304 p x y hx hy fam h) (case_10405 p x y hx hy fam h)]
  simp only [radialCase_20404, radialCase_10403, radialCase_10304, radialCase_10405, radial_eval, div_eq_mul_inv, mul_inv]
  grobner

theorem case_20406 (p x y : K) (hx : x ≠ 0) (hy : y ≠ 0) (fam : Fam K) (h : Reductions p x y fam) :
    radialCase_20406 p x y (x*x) (y*y) (p*p) (valuesOf fam) (fam.GA 1) (fam.GB 1) (fam.H 2) = Q p x y fam 2 4 6 := by
  rw [Q_step p x y fam 1 3 6 (case_10405 p x y hx hy fam h) (case_10306 p x y hx hy fam h) (case_10407 p x y hx hy fam h)]
  simp only [radialCase_20406, radialCase_10405, radialCase_10306, radialCase_10407, radial_eval, div_eq_mul_inv, mul_inv]
  grobner

theorem case_30302 (p x y : K) (hx : x ≠ 0) (hy : y ≠ 0) (fam : Fam K) (h : Reductions p x y fam) :
    radialCase_30302 p x y (x*x) (y*y) (p*p) (valuesOf fam) (fam.GA 1) (fam.GB 1) (fam.H 2) = Q p x y fam 3 3 2 := by
  rw [Q_step p x y fam 2 2 2 (case_20301 p x y hx hy fam h) (case_20202 p x y hx hy fam h) (case_20303 p x y hx hy fam h)]
  simp only [radialCase_30302, radialCase_20301, radialCase_20202, radialCase_20303, radial_eval, div_eq_mul_inv, mul_inv]
  grobner

theorem case_30304 (p x y : K) (hx : x ≠ 0) (hy : y ≠ 0) (fam : Fam K) (h : Reductions p x y fam) :
    radialCase_30304 p x y (x*x) (y*y) (p*p) (valuesOf fam) (fam.GA 1) (fam.GB 1) (fam.H 2) = Q p x y fam 3 3 4 := by
  rw [Q_step p x y fam 2 2 4 (case_20303 p x y hx hy fam h) (case_20204 p x y hx hy fam h) (case_20305 p x y hx hy fam h)]
  simp only [radialCase_30304, radialCase_20303, radialCase_20204, radialCase_20305, radial_eval, div_eq_mul_inv, mul_inv]
  grobner

theorem case_30306 (p x y : K) (hx : x ≠ 0) (hy : y ≠ 0) (fam : Fam K) (h : Reductions p x y fam) :
    radialCase_30306 p x y (x*x) (y*y) (p*p) (valuesOf fam) (fam.GA 1) (fam.GB 1) (fam.H 2) = Q p x y fam 3 3 6 := by
  rw [Q_step p x y fam 2 2 6 (case_20305 p x y hx hy fam h) (case_20206 p x y hx hy fam h) (case_20307 p x y hx hy fam h)]
  simp only [radialCase_30306, radialCase_20305, radialCase_20206, radialCase_20307, radial_eval, div_eq_mul_inv, mul_inv]
  grobner

theorem Q_2_4_0 (p x y : K) (hx : x ≠ 0) (hy : y ≠ 0) (fam : Fam K) (h : Reductions p x y fam) :
    Q p x y fam 2 4 0 =
      (p * (3 * p * p * p + 4 * p * p * x * x + 12 * p * x * x * x * x + 4 * p * x * x * y * y - 4 * x * x * x * x * x * x) / (4 * x * x * y * y * y * y)) * valuesOf fam 0
      + (x * x * x * (2 * x * x - 7 * p - 2 * y * y) / (2 * y * y * y * y)) * fam.GA 1
      + (p * (2 * x * x * x * x - 3 * p * p - 4 * p * x * x) / (2 * x * y * y * y)) * fam.H 2 := by
  -- two steps: (2,4,0) from (1,4,−1), (1,3,0), (1,4,1) and (1,4,−1) from (0,4,−2), (0,3,−1), (0,4,0);
  -- only (0,4,−2) (`rfl`) is left to be unrolled to base integrals
  have e14 := Q_step p x y fam 0 3 (-1) rfl (Q_0_3_m1 p x y hy fam h).symm (Q_0_4_0 p x y hy fam h).symm
  rw [Q_step p x y fam 1 3 0 e14.symm (Q_1_3_0 p x y hx hy fam h).symm (case_10401 p x y hx hy fam h)]
  simp only [radialCase_10401, radial_eval, valuesOf_zero]
  field_simp
  simp only [F_m2 h, GB_m3 h, F_m4 h, GB_m5 h, F_m6 h]
  ring

theorem case_30401 (p x y : K) (hx : x ≠ 0) (hy : y ≠ 0) (fam : Fam K) (h : Reductions p x y fam) :
    radialCase_30401 p x y (x*x) (y*y) (p*p) (valuesOf fam) (fam.GA 1) (fam.GB 1) (fam.H 2) = Q p x y fam 3 4 1 := by
  rw [Q_step p x y fam 2 3 1 (Q_2_4_0 p x y hx hy fam h).symm (case_20301 p x y hx hy fam h) (case_20402 p x y hx hy fam h)]
  simp only [radialCase_30401, radialCase_20301, radialCase_20402, radial_eval, div_eq_mul_inv, mul_inv]
  grobner

theorem case_30403 (p x y : K) (hx : x ≠ 0) (hy : y ≠ 0) (fam : Fam K) (h : Reductions p x y fam) :
    radialCase_30403 p x y (x*x) (y*y) (p*p) (valuesOf fam) (fam.GA 1) (fam.GB 1) (fam.H 2) = Q p x y fam 3 4 3 := by
  rw [Q_step p x y fam 2 3 3 (case_20402 p x y hx hy fam h) (case_20303 p x y hx hy fam h) (case_20404 p x y hx hy fam h)]
  simp only [radialCase_30403, radialCase_20402, radialCase_20303, radialCase_20404, radial_eval, div_eq_mul_inv, mul_inv]
  grobner

theorem case_30405 (p x y : K) (hx : x ≠ 0) (hy : y ≠ 0) (fam : Fam K) (h : Reductions p x y fam) :
    radialCase_30405 p x y (x*x) (y*y) (p*p) (valuesOf fam) (fam.GA 1) (fam.GB 1) (fam.H 2) = Q p x y fam 3 4 5 := by
  rw [Q_step p x y fam 2 3 5 (case_20404 p x y hx hy fam h) (case_20305 p x y hx hy fam h) (case_20406 p x y hx hy fam h)]
  simp only [radialCase_30405, radialCase_20404, radialCase_20305, radialCase_20406, radial_eval, div_eq_mul_inv, mul_inv]
  grobner

theorem case_40402 (p x y : K) (hx : x ≠ 0) (hy : y ≠ 0) (fam : Fam K) (h : Reductions p x y fam) :
    radialCase_40402 p x y (x*x) (y*y) (p*p) (valuesOf fam) (fam.GA 1) (fam.GB 1) (fam.H 2) = Q p x y fam 4 4 2 := by
  rw [Q_step p x y fam 3 3 2 (case_30401 p x y hx hy fam h) (case_30302 p x y hx hy fam h) (case_30403 p x y hx hy fam h)]
  simp only [radialCase_40402, radialCase_30401, radialCase_30302, radialCase_30403, radial_eval, div_eq_mul_inv, mul_inv]
  grobner

theorem case_40404 (p x y : K) (hx : x ≠ 0) (hy : y ≠ 0) (fam : Fam K) (h : Reductions p x y fam) :
    radialCase_40404 p x y (x*x) (y*y) (p*p) (valuesOf fam) (fam.GA 1) (fam.GB 1) (fam.H 2) = Q p x y fam 4 4 4 := by
  rw [Q_step p x y fam 3 3 4 (case_30403 p x y hx hy fam h) (case_30304 p x y hx hy fam h) (case_30405 p x y hx hy fam h)]
  simp only [radialCase_40404, radialCase_30403, radialCase_30304, radialCase_30405, radial_eval, div_eq_mul_inv, mul_inv]
  grobner

end Ecpint.C12
