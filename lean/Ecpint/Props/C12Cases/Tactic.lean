/- `radial_case`: the direct route from ONE generated case to the recurrences, independent of the other cases:
   1. unfold the generated case and the recurrences `Q`/`recI`/`recJ`/`leaf`/`valuesOf` down to the base integrals,
      normalising the integer arithmetic, the parity tests of `leaf`/`valuesOf` and the casts with `norm_num`;
   2. replace every base integral `fam.F N` (N ≤ 0 even) and `fam.GB N` (N < 0 odd) by its closed form in
      `F 2, G^B 1, G^A 1, H 2` (lemmas of `Closed.lean`, each derived from the four `Reductions`);
   3. clear denominators (`x ≠ 0`, `y ≠ 0` are found in the context) and finish with `ring`.
   The case theorems of `Part1.lean` do not take this route (`Q` unfolds as a tree without sharing: dear for high
   orders); they are steps of the recurrence from earlier cases. -/
import Ecpint.Props.C12Cases.Closed
import Ecpint.Gen.RadialCases
import Mathlib.Tactic.Ring
import Mathlib.Tactic.FieldSimp
import Mathlib.Tactic.NormNum
import Mathlib.Tactic.LinearCombination
import Mathlib.Algebra.Field.Basic
namespace Ecpint.C12
open Ecpint.RadialRec Ecpint.Gen

/-- `radial_case radialCase_<key> h` proves `radialCase_<key> … = Q p x y fam i j k` from `h : Reductions p x y fam`
with `hx : x ≠ 0`, `hy : y ≠ 0` in the context. -/
macro "radial_case " d:ident h:ident : tactic => `(tactic| (
  norm_num [$d:ident, Q, recI, recJ, leaf, valuesOf]
  <;> (try simp only [F_0 $h, GB_m1 $h, F_m2 $h, GB_m3 $h, F_m4 $h, GB_m5 $h, F_m6 $h, GB_m7 $h, F_m8 $h])
  <;> (try field_simp)
  <;> ring))

end Ecpint.C12
