/-
C12b - the radial recurrences (Shaw & Hill, JCP 147, 074108 (2017), eqs 28, 29, 33) are true of the defining integrals
   Q(i,j,k) = ∫_0^∞ r^k e^{-p r²} i_i(2x r) i_j(2y r) dr.
-/
import Ecpint.Props.C14e
import Ecpint.Lemmas.RadialReal
import Ecpint.Props.C12Cases

namespace Ecpint.C12b
open MeasureTheory Ecpint.C14b Ecpint.RadialReal

noncomputable def Qint (p x y : ℝ) (i j : ℕ) (k : ℕ) : ℝ :=
  ∫ r in Set.Ioi (0:ℝ), r ^ k * Real.exp (-p * r ^ 2) * sphI i (2 * x * r) * sphI j (2 * y * r)

theorem sphI_continuous (l : ℕ) : Continuous (sphI l) :=
  continuous_iff_continuousAt.2 fun z => (sphI_hasDerivAt_G l z).continuousAt

theorem expType_sphI (l : ℕ) (c : ℝ) (hc : 0 ≤ c) : ExpType fun r => sphI l (c * r) := by
  refine ⟨(sphI_continuous l).comp (continuous_const.mul continuous_id), c, fun r hr => ?_⟩
  have h0 : 0 ≤ c * r := mul_nonneg hc hr.le
  rw [abs_of_nonneg (C14e.sphI_nonneg l _ h0)]
  exact C14e.sphI_le_exp l _ h0

theorem expType_cosh (c : ℝ) (hc : 0 ≤ c) : ExpType fun r => Real.cosh (c * r) := by
  refine ⟨Real.continuous_cosh.comp (continuous_const.mul continuous_id), c, fun r hr => ?_⟩
  rw [abs_of_pos (Real.cosh_pos _), Real.cosh_eq]
  have h0 : 0 ≤ c * r := mul_nonneg hc hr.le
  have : Real.exp (-(c * r)) ≤ Real.exp (c * r) := Real.exp_le_exp.2 (by linarith)
  linarith

theorem Qint_eq_gaussInt (p x y : ℝ) (i j k : ℕ) :
    Qint p x y i j k = gaussInt p k (fun r => sphI i (2 * x * r)) fun r => sphI j (2 * y * r) :=
  rfl

theorem Qint_integrable (p x y : ℝ) (hp : 0 < p) (hx : 0 ≤ x) (hy : 0 ≤ y) (i j k : ℕ) :
    IntegrableOn (fun r : ℝ => r ^ k * Real.exp (-p * r ^ 2) * sphI i (2 * x * r) * sphI j (2 * y * r)) (Set.Ioi 0) :=
  (expType_sphI i (2 * x) (by positivity)).integrableOn (expType_sphI j (2 * y) (by positivity)) p hp k

theorem Qint_nonneg (p x y : ℝ) (hx : 0 ≤ x) (hy : 0 ≤ y) (i j k : ℕ) : 0 ≤ Qint p x y i j k := by
  refine setIntegral_nonneg measurableSet_Ioi fun r hr => ?_
  have hr0 : (0 : ℝ) < r := hr
  have h1 := C14e.sphI_nonneg i (2 * x * r) (by positivity)
  have h2 := C14e.sphI_nonneg j (2 * y * r) (by positivity)
  positivity

theorem Qint_comm (p x y : ℝ) (i j k : ℕ) : Qint p x y i j k = Qint p y x j i k :=
  gaussInt_comm p k _ _

/-! ## recurrence in one order (eqs 29/33) -/

theorem Qint_rec_j (p x y : ℝ) (hp : 0 < p) (hx : 0 ≤ x) (hy : 0 < y) (i j k : ℕ) (hk : 1 ≤ k) :
    Qint p x y i (j + 2) k = Qint p x y i j k - (2 * ((j : ℝ) + 1) + 1) / (2 * y) * Qint p x y i (j + 1) (k - 1) := by
  obtain ⟨m, rfl⟩ := Nat.exists_eq_add_of_le' hk
  simp only [Nat.add_sub_cancel]
  unfold Qint
  rw [← integral_const_mul, ← integral_sub (Qint_integrable p x y hp hx hy.le i j (m + 1))
    ((Qint_integrable p x y hp hx hy.le i (j + 1) m).const_mul _)]
  refine setIntegral_congr_fun measurableSet_Ioi fun r hr => ?_
  have hr0 : (0 : ℝ) < r := hr
  have hz : 2 * y * r ≠ 0 := by positivity
  simp only [sphI_rec_succ j (2 * y * r) hz]
  field_simp
  ring

theorem Qint_rec_i (p x y : ℝ) (hp : 0 < p) (hx : 0 < x) (hy : 0 ≤ y) (i j k : ℕ) (hk : 1 ≤ k) :
    Qint p x y (i + 2) j k = Qint p x y i j k - (2 * ((i : ℝ) + 1) + 1) / (2 * x) * Qint p x y (i + 1) j (k - 1) := by
  rw [Qint_comm p x y (i + 2), Qint_comm p x y i, Qint_comm p x y (i + 1)]
  exact Qint_rec_j p y x hp hy hx j i k hk

/-! ## lowering the first order (eq 28) by integration by parts

The derivatives of the factors are written `a₁ · r^d₁ / r · A₁ + a₂ · r^d₂ / r · A₂`, the shape `RadialReal.Factor` asks for. -/

theorem sphI_hasDerivAt_up (l : ℕ) (t : ℝ) (ht : t ≠ 0) :
    HasDerivAt (sphI l) (sphI (l + 1) t + (l : ℝ) / t * sphI l t) t := by
  rcases l with _ | m
  · simpa using sphI_hasDerivAt_zero t
  · refine (sphI_hasDerivAt_succ m t).congr_deriv ?_
    have e : sphI m t = sphI (m + 2) t + (2 * (m : ℝ) + 3) / t * sphI (m + 1) t := by
      linarith only [sphI_rec_succ m t ht]
    rw [e]
    push_cast
    field_simp
    ring

theorem sphI_hasDerivAt_down (l : ℕ) (t : ℝ) (ht : t ≠ 0) :
    HasDerivAt (sphI (l + 1)) (sphI l t - ((l : ℝ) + 2) / t * sphI (l + 1) t) t := by
  refine (sphI_hasDerivAt_succ l t).congr_deriv ?_
  rw [sphI_rec_succ l t ht]
  field_simp
  ring

theorem hasDerivAt_comp_const_mul {f : ℝ → ℝ} {f' : ℝ} (c r : ℝ) (h : HasDerivAt f f' (c * r)) :
    HasDerivAt (fun r : ℝ => f (c * r)) (f' * c) r :=
  HasDerivAt.comp (h₂ := f) (h := fun r : ℝ => c * r) r h (by simpa using (hasDerivAt_id r).const_mul c)

theorem factor_sphI_up (l : ℕ) (c : ℝ) (hc : 0 < c) :
    Factor (fun r => sphI l (c * r)) c 1 (fun r => sphI (l + 1) (c * r)) l 0 fun r => sphI l (c * r) := by
  refine ⟨expType_sphI l c hc.le, expType_sphI (l + 1) c hc.le, expType_sphI l c hc.le, fun r hr => ?_⟩
  refine (hasDerivAt_comp_const_mul c r (sphI_hasDerivAt_up l (c * r) (by positivity))).congr_deriv ?_
  field_simp

theorem factor_sphI_down (l : ℕ) (c : ℝ) (hc : 0 < c) :
    Factor (fun r => sphI (l + 1) (c * r)) c 1 (fun r => sphI l (c * r)) (-((l : ℝ) + 2)) 0
      fun r => sphI (l + 1) (c * r) := by
  refine ⟨expType_sphI (l + 1) c hc.le, expType_sphI l c hc.le, expType_sphI (l + 1) c hc.le, fun r hr => ?_⟩
  refine (hasDerivAt_comp_const_mul c r (sphI_hasDerivAt_down l (c * r) (by positivity))).congr_deriv ?_
  field_simp
  ring

/-- the rule of `factor_sphI_down` at l = −1, with i_{−1}(t) = cosh t / t -/
theorem factor_sphI_zero (c : ℝ) (hc : 0 < c) :
    Factor (fun r => sphI 0 (c * r)) 1 0 (fun r => Real.cosh (c * r)) (-1) 0 fun r => sphI 0 (c * r) := by
  refine ⟨expType_sphI 0 c hc.le, expType_cosh c hc.le, expType_sphI 0 c hc.le, fun r hr => ?_⟩
  refine (hasDerivAt_comp_const_mul c r (sphI_hasDerivAt_zero (c * r))).congr_deriv ?_
  have hz : c * r ≠ 0 := by positivity
  rw [sphI_one _ hz, sphI_zero _ hz]
  field_simp
  ring

/-- `cosh(c r)' = c sinh(c r) = c² r · i_0(c r)`; the second term is there for the shape only -/
theorem factor_cosh (c : ℝ) (hc : 0 < c) :
    Factor (fun r => Real.cosh (c * r)) (c ^ 2) 2 (fun r => sphI 0 (c * r)) 0 0 fun r => sphI 0 (c * r) := by
  refine ⟨expType_cosh c hc.le, expType_sphI 0 c hc.le, expType_sphI 0 c hc.le, fun r hr => ?_⟩
  refine (hasDerivAt_comp_const_mul c r (Real.hasDerivAt_cosh (c * r))).congr_deriv ?_
  have hz : c * r ≠ 0 := by positivity
  rw [sphI_zero _ hz]
  field_simp
  ring

/-- **eq 28** (`RadialRec.recI`) for second order j ≥ 1 -/
theorem Qint_lower_i (p x y : ℝ) (hp : 0 < p) (hx : 0 < x) (hy : 0 < y) (i j k : ℕ) (hj : 1 ≤ j) (hk : 1 ≤ k) :
    Qint p x y (i + 1) j k = (2 + (j : ℝ) - ((i : ℝ) + 1) - k) / (2 * x) * Qint p x y i j (k - 1)
      + (-y / x) * Qint p x y i (j - 1) k + (p / x) * Qint p x y i j (k + 1) := by
  obtain ⟨m, rfl⟩ := Nat.exists_eq_add_of_le' hk
  obtain ⟨j', rfl⟩ := Nat.exists_eq_add_of_le' hj
  have h := ibp_gauss p hp m (factor_sphI_up i (2 * x) (by positivity)) (factor_sphI_down j' (2 * y) (by positivity))
  simp only [Nat.add_sub_cancel, Nat.add_zero, Qint_eq_gaussInt] at h ⊢
  push_cast
  field_simp
  linarith only [h]

/-! ### second order j = 0

`RadialRec.recI` at j = 0 has its ν-term at `j − 1 = 0` (truncated subtraction).  Read literally as Q(i,0,k) that is NOT
an identity of the integrals.  The true relation has the function i_{−1}(t) = cosh t / t in the ν-term, with recI's own μ
(`factor_sphI_zero` is the rule of `factor_sphI_down` at l = −1); that is what the model computes, because the ν-call flips
the parity of `k − start` and `leaf` then returns the G^B (sinh·cosh) family. -/

noncomputable def QintC (p x y : ℝ) (i : ℕ) (k : ℕ) : ℝ :=
  ∫ r in Set.Ioi (0:ℝ), r ^ k * Real.exp (-p * r ^ 2) * sphI i (2 * x * r) * Real.cosh (2 * y * r)

/-- "Q(i,−1,k)": second order −1 with i_{−1}(t) = cosh t / t, i.e. ∫ r^k e^{-p r²} i_i(2x r) cosh(2y r)/(2y r) dr (k ≥ 1) -/
noncomputable def QintM (p x y : ℝ) (i : ℕ) (k : ℕ) : ℝ := QintC p x y i (k - 1) / (2 * y)

theorem QintC_eq_gaussInt (p x y : ℝ) (i k : ℕ) :
    QintC p x y i k = gaussInt p k (fun r => sphI i (2 * x * r)) fun r => Real.cosh (2 * y * r) :=
  rfl

theorem QintC_integrable (p x y : ℝ) (hp : 0 < p) (hx : 0 ≤ x) (hy : 0 ≤ y) (i k : ℕ) :
    IntegrableOn (fun r : ℝ => r ^ k * Real.exp (-p * r ^ 2) * sphI i (2 * x * r) * Real.cosh (2 * y * r)) (Set.Ioi 0) :=
  (expType_sphI i (2 * x) (by positivity)).integrableOn (expType_cosh (2 * y) (by positivity)) p hp k

/-- i_1(t) = i_{−1}(t) − i_0(t)/t under the integral: the j = 1 line of `RadialRec.recJ` -/
theorem Qint_one_eq (p x y : ℝ) (hp : 0 < p) (hx : 0 ≤ x) (hy : 0 < y) (i k : ℕ) (hk : 1 ≤ k) :
    Qint p x y i 1 k = QintM p x y i k + ((-1 : Int) : ℝ) / (((2 : Int) : ℝ) * y) * Qint p x y i 0 (k - 1) := by
  obtain ⟨m, rfl⟩ := Nat.exists_eq_add_of_le' hk
  simp only [Nat.add_sub_cancel, QintM]
  unfold Qint QintC
  rw [← integral_const_mul, ← integral_div, ← integral_add ((QintC_integrable p x y hp hx hy.le i m).div_const _)
    ((Qint_integrable p x y hp hx hy.le i 0 m).const_mul _)]
  refine setIntegral_congr_fun measurableSet_Ioi fun r hr => ?_
  have hr0 : (0 : ℝ) < r := hr
  have hz : 2 * y * r ≠ 0 := by positivity
  simp only [sphI_one _ hz, sphI_zero _ hz]
  push_cast
  field_simp
  ring

/-- j = 0 with i_{−1} in the ν-term: exactly `recI`'s coefficients -/
theorem Qint_lower_i_zero_cosh (p x y : ℝ) (hp : 0 < p) (hx : 0 < x) (hy : 0 < y) (i k : ℕ) (hk : 1 ≤ k) :
    Qint p x y (i + 1) 0 k
      = (((2 + ((0 : ℕ) : Int) - ((i : Int) + 1) - (k : Int) : Int) : ℝ) / (((2 : Int) : ℝ) * x)) * Qint p x y i 0 (k - 1)
        + (-y / x) * QintM p x y i k + (p / x) * Qint p x y i 0 (k + 1) := by
  obtain ⟨m, rfl⟩ := Nat.exists_eq_add_of_le' hk
  have h := ibp_gauss p hp m (factor_sphI_up i (2 * x) (by positivity)) (factor_sphI_zero (2 * y) (by positivity))
  simp only [QintM, Nat.add_sub_cancel, Nat.add_zero, Qint_eq_gaussInt, QintC_eq_gaussInt] at h ⊢
  push_cast
  field_simp
  linarith only [h]

/-- eq 28 with second order −1 (the state `recI` is in after a ν-call at j = 0): the same coefficients again -/
theorem QintM_lower_i (p x y : ℝ) (hp : 0 < p) (hx : 0 < x) (hy : 0 < y) (i k : ℕ) (hk : 2 ≤ k) :
    QintM p x y (i + 1) k
      = (((2 + ((0 : ℕ) : Int) - ((i : Int) + 1) - (k : Int) : Int) : ℝ) / (((2 : Int) : ℝ) * x)) * QintM p x y i (k - 1)
        + (-y / x) * Qint p x y i 0 k + (p / x) * QintM p x y i (k + 1) := by
  obtain ⟨m, rfl⟩ := Nat.exists_eq_add_of_le' hk
  have h := ibp_gauss p hp m (factor_sphI_up i (2 * x) (by positivity)) (factor_cosh (2 * y) (by positivity))
  simp only [QintM, Nat.add_sub_cancel, show m + 2 - 1 = m + 1 from rfl, Nat.add_zero, Qint_eq_gaussInt,
    QintC_eq_gaussInt] at h ⊢
  push_cast
  field_simp
  linarith only [h]

theorem sphI_pos (l : ℕ) (t : ℝ) (ht : 0 < t) : 0 < sphI l t := by
  have h := (iTerm_summable l t).le_tsum 0 (fun j _ => C14e.iTerm_nonneg l j t ht.le)
  have h0 : 0 < iTerm l 0 t := by
    unfold iTerm
    have := BesselReal.dfac_pos (2 * l + 2 * 0 + 1)
    positivity
  exact lt_of_lt_of_le h0 h

/-- "Q(i,−1,k)" is strictly larger than Q(i,0,k): r · i_0(2y r) = sinh(2y r)/(2y) < cosh(2y r)/(2y) under the integral -/
theorem Qint_zero_lt_QintM (p x y : ℝ) (hp : 0 < p) (hx : 0 < x) (hy : 0 < y) (i k : ℕ) (hk : 1 ≤ k) :
    Qint p x y i 0 k < QintM p x y i k := by
  obtain ⟨m, rfl⟩ := Nat.exists_eq_add_of_le' hk
  simp only [QintM, Nat.add_sub_cancel]
  unfold Qint QintC
  rw [← integral_div]
  refine setIntegral_Ioi_lt (Qint_integrable p x y hp hx.le hy.le i 0 (m + 1))
    ((QintC_integrable p x y hp hx.le hy.le i m).div_const (2 * y)) fun r hr => ?_
  have hz : 2 * y * r ≠ 0 := by positivity
  have hs := sphI_pos i (2 * x * r) (by positivity)
  have hc : 0 < r ^ m * Real.exp (-p * r ^ 2) * sphI i (2 * x * r) / (2 * y) := by positivity
  have e : r ^ (m + 1) * Real.exp (-p * r ^ 2) * sphI i (2 * x * r) * sphI 0 (2 * y * r)
      = r ^ m * Real.exp (-p * r ^ 2) * sphI i (2 * x * r) / (2 * y) * Real.sinh (2 * y * r) := by
    rw [sphI_zero _ hz]
    field_simp
    ring
  rw [e, mul_div_right_comm _ (Real.cosh _)]
  exact mul_lt_mul_of_pos_left (Real.sinh_lt_cosh _) hc

/-- `recI`'s j = 0 line with the ν-term read literally as Q(i, 0, k) is never an identity of the integrals -/
theorem recI_zero_literal_false (p x y : ℝ) (hp : 0 < p) (hx : 0 < x) (hy : 0 < y) (i k : ℕ) (hk : 1 ≤ k) :
    Qint p x y (i + 1) 0 k
      ≠ (((2 + ((0 : ℕ) : Int) - ((i : Int) + 1) - (k : Int) : Int) : ℝ) / (((2 : Int) : ℝ) * x)) * Qint p x y i 0 (k - 1)
        + (-y / x) * Qint p x y i (0 - 1) k + (p / x) * Qint p x y i 0 (k + 1) := by
  rw [Qint_lower_i_zero_cosh p x y hp hx hy i k hk]
  intro hEq
  have hν : -y / x ≠ 0 := (div_neg_of_neg_of_pos (neg_neg_of_pos hy) hx).ne
  exact (Qint_zero_lt_QintM p x y hp hx hy i k hk).ne' (mul_left_cancel₀ hν (add_left_cancel (add_right_cancel hEq)))

/-! ## The recurrence model computes the integral (convergent range k ≥ i + j)

With the base families read as F_N = Q(0,0,N) (sinh·sinh) and G^B_N = "Q(0,−1,N)" (sinh·cosh) - which is how the compiled
code uses `values[]` (case 2: Q(0,0,2) = values[0]; case 103: Q(0,1,3) = −values[0]/(2y) + values[1]) - `RadialRec.recJ`,
`RadialRec.recI` and `RadialRec.Q` evaluate to the defining integrals whenever `start = k − i − j ≥ 0`, so that every base
integral met has N ≥ start ≥ 0 and no divergent integral / reduction relation is involved. -/

open Ecpint.RadialRec

/-- hypotheses on the families: the two that the recurrences reach are the integrals -/
structure FamIsIntegral (p x y : ℝ) (fam : Fam ℝ) : Prop where
  hF : ∀ n : ℕ, fam.F (n : Int) = Qint p x y 0 0 n
  hGB : ∀ n : ℕ, 1 ≤ n → fam.GB (n : Int) = QintM p x y 0 n

theorem Q_zero_eq_Qint (p x y : ℝ) (hp : 0 < p) (hx : 0 ≤ x) (hy : 0 < y) (fam : Fam ℝ) (hfam : FamIsIntegral p x y fam) :
    ∀ j k : ℕ, j ≤ k → RadialRec.Q p x y fam 0 j (k : Int) = Qint p x y 0 j k := by
  intro j
  induction j using Nat.twoStepInduction with
  | zero =>
    intro k _
    rw [Q_zero_zero, hfam.hF]
  | one =>
    intro k hk
    rw [Q_zero_one, hfam.hGB k hk, ← Nat.cast_pred hk, hfam.hF, Qint_one_eq p x y hp hx hy 0 k hk]
  | more j ih0 ih1 =>
    intro k hk
    rw [Q_zero_add_two, ← Nat.cast_pred (by omega : 0 < k), ih0 k (by omega), ih1 (k - 1) (by omega),
      Qint_rec_j p x y hp hx hy 0 j k (by omega)]
    push_cast
    ring

/-- both orders; the second component is the value `recI` has after a ν-call at second order 0, "Q(i,−1,k)" -/
theorem Q_eq_Qint_and (p x y : ℝ) (hp : 0 < p) (hx : 0 < x) (hy : 0 < y) (fam : Fam ℝ) (hfam : FamIsIntegral p x y fam) :
    ∀ i : ℕ, (∀ j k : ℕ, i + j ≤ k → RadialRec.Q p x y fam i j (k : Int) = Qint p x y i j k)
      ∧ (∀ k : ℕ, i + 1 ≤ k → Qm p x y fam i (k : Int) = QintM p x y i k) := by
  intro i
  induction i with
  | zero =>
    refine ⟨fun j k hk => Q_zero_eq_Qint p x y hp hx.le hy fam hfam j k (by omega), fun k hk => ?_⟩
    rw [Qm_zero, hfam.hGB k hk]
  | succ i ih =>
    obtain ⟨ihE, ihO⟩ := ih
    refine ⟨fun j k hk => ?_, fun k hk => ?_⟩
    · have k0 : 0 < k := by omega
      rcases j with _ | j
      · rw [Q_succ_zero, ← Nat.cast_pred k0, ← Nat.cast_add_one k, ihE 0 (k - 1) (by omega), ihO k (by omega),
          ihE 0 (k + 1) (by omega), Qint_lower_i_zero_cosh p x y hp hx hy i k (by omega)]
      · rw [Q_succ_succ, ← Nat.cast_pred k0, ← Nat.cast_add_one k, ihE (j + 1) (k - 1) (by omega), ihE j k (by omega),
          ihE (j + 1) (k + 1) (by omega), Qint_lower_i p x y hp hx hy i (j + 1) k (by omega) (by omega),
          Nat.add_sub_cancel]
        push_cast
        ring
    · rw [Qm_succ, ← Nat.cast_pred (by omega : 0 < k), ← Nat.cast_add_one k, ihO (k - 1) (by omega), ihE 0 k (by omega),
        ihO (k + 1) (by omega), QintM_lower_i p x y hp hx hy i k (by omega)]

/-- **the recurrences are true of the integrals**: for k ≥ i + j the model's `Q` is the defining integral -/
theorem Q_eq_Qint (p x y : ℝ) (hp : 0 < p) (hx : 0 < x) (hy : 0 < y) (fam : Fam ℝ) (hfam : FamIsIntegral p x y fam)
    (i j k : ℕ) (hk : i + j ≤ k) : RadialRec.Q p x y fam i j (k : Int) = Qint p x y i j k :=
  (Q_eq_Qint_and p x y hp hx hy fam hfam i).1 j k hk

/-! ## the base families as integrals, and the integration-by-parts relations between them

F_N = ∫ r^N e^{-p r²} i_0(2x r) i_0(2y r) dr                     (sinh·sinh / (4xy r²))
G^B_N = ∫ r^N e^{-p r²} i_0(2x r) cosh(2y r)/(2y r) dr           (sinh·cosh)
G^A_N = ∫ r^N e^{-p r²} cosh(2x r)/(2x r) i_0(2y r) dr           (cosh·sinh)
H_N = ∫ r^N e^{-p r²} cosh(2x r)/(2x r) cosh(2y r)/(2y r) dr     (cosh·cosh)
F converges for N ≥ 0, G^A and G^B for N ≥ 1, H for N ≥ 2.  The four relations of `RadialRec.Reductions` are proved for every
N in the convergent range (multiplied through by N − 1); of the instances N ≤ 0 that `Reductions` itself quantifies over,
exactly one - `hF` at N = 0 - is between convergent integrals, and it is proved in its literal form. -/

noncomputable def QintCS (p x y : ℝ) (k : ℕ) : ℝ :=
  ∫ r in Set.Ioi (0:ℝ), r ^ k * Real.exp (-p * r ^ 2) * Real.cosh (2 * x * r) * sphI 0 (2 * y * r)

noncomputable def QintCC (p x y : ℝ) (k : ℕ) : ℝ :=
  ∫ r in Set.Ioi (0:ℝ), r ^ k * Real.exp (-p * r ^ 2) * Real.cosh (2 * x * r) * Real.cosh (2 * y * r)

theorem QintCS_eq_gaussInt (p x y : ℝ) (k : ℕ) :
    QintCS p x y k = gaussInt p k (fun r => Real.cosh (2 * x * r)) fun r => sphI 0 (2 * y * r) :=
  rfl

theorem QintCC_eq_gaussInt (p x y : ℝ) (k : ℕ) :
    QintCC p x y k = gaussInt p k (fun r => Real.cosh (2 * x * r)) fun r => Real.cosh (2 * y * r) :=
  rfl

/-- the four families as the integrals they denote (value 0 outside the convergent range is irrelevant: junk) -/
noncomputable def famInt (p x y : ℝ) : Fam ℝ where
  F N := Qint p x y 0 0 N.toNat
  GB N := QintC p x y 0 (N - 1).toNat / (2 * y)
  GA N := QintCS p x y (N - 1).toNat / (2 * x)
  H N := QintCC p x y (N - 2).toNat / (2 * x * (2 * y))

/-! `famInt` at an index given as a natural number plus its offset; the side condition is for `omega`. -/

theorem famInt_F (p x y : ℝ) {N : Int} {n : ℕ} (h : N = n) : (famInt p x y).F N = Qint p x y 0 0 n := by
  subst h
  simp only [famInt, Int.toNat_natCast]

theorem famInt_GB (p x y : ℝ) {N : Int} {m : ℕ} (h : N = m + 1) :
    (famInt p x y).GB N = QintC p x y 0 m / (2 * y) := by
  subst h
  simp only [famInt, Int.add_sub_cancel, Int.toNat_natCast]

theorem famInt_GA (p x y : ℝ) {N : Int} {m : ℕ} (h : N = m + 1) :
    (famInt p x y).GA N = QintCS p x y m / (2 * x) := by
  subst h
  simp only [famInt, Int.add_sub_cancel, Int.toNat_natCast]

theorem famInt_H (p x y : ℝ) {N : Int} {m : ℕ} (h : N = m + 2) :
    (famInt p x y).H N = QintCC p x y m / (2 * x * (2 * y)) := by
  subst h
  simp only [famInt, Int.add_sub_cancel, Int.toNat_natCast]

theorem famInt_isIntegral (p x y : ℝ) : FamIsIntegral p x y (famInt p x y) where
  hF n := famInt_F p x y rfl
  hGB n hn := by
    rw [famInt_GB p x y (m := n - 1) (by omega), QintM]

/-- the `hF` relation for every N ≥ 0 (multiplied by N − 1; N = 1 gives 0 on the left) -/
theorem famInt_hF (p x y : ℝ) (hp : 0 < p) (hx : 0 < x) (hy : 0 < y) (N : Int) (hN : 0 ≤ N) :
    ((N : ℝ) - 1) * (famInt p x y).F N = 2 * p * (famInt p x y).F (N + 2) - 2 * y * (famInt p x y).GB (N + 1)
      - 2 * x * (famInt p x y).GA (N + 1) := by
  obtain ⟨m, rfl⟩ := Int.eq_ofNat_of_zero_le hN
  have h := ibp_gauss p hp m (factor_sphI_zero (2 * x) (by positivity)) (factor_sphI_zero (2 * y) (by positivity))
  rw [famInt_F p x y (n := m) rfl, famInt_F p x y (n := m + 2) (by omega), famInt_GB p x y (m := m) rfl,
    famInt_GA p x y (m := m) rfl]
  simp only [Nat.add_zero, Qint_eq_gaussInt, QintC_eq_gaussInt, QintCS_eq_gaussInt] at h ⊢
  push_cast
  field_simp
  linarith only [h]

/-- `Reductions.hF` at N = 0, literally: the one instance of the four reduction relations (N ≤ 0) that is a relation
between convergent integrals -/
theorem famInt_hF_zero (p x y : ℝ) (hp : 0 < p) (hx : 0 < x) (hy : 0 < y) :
    (famInt p x y).F 0 = (2 * p * (famInt p x y).F (0 + 2) - 2 * y * (famInt p x y).GB (0 + 1)
      - 2 * x * (famInt p x y).GA (0 + 1)) / (((0 : Int) : ℝ) - 1) := by
  rw [eq_div_iff (by norm_num), mul_comm]
  exact famInt_hF p x y hp hx hy 0 le_rfl

theorem famInt_hGB (p x y : ℝ) (hp : 0 < p) (hx : 0 < x) (hy : 0 < y) (N : Int) (hN : 1 ≤ N) :
    ((N : ℝ) - 1) * (famInt p x y).GB N = 2 * p * (famInt p x y).GB (N + 2) - 2 * y * (famInt p x y).F (N + 1)
      - 2 * x * (famInt p x y).H (N + 1) := by
  obtain ⟨m, rfl⟩ : ∃ m : ℕ, N = (m : Int) + 1 := ⟨(N - 1).toNat, by omega⟩
  have h := ibp_gauss p hp m (factor_sphI_zero (2 * x) (by positivity)) (factor_cosh (2 * y) (by positivity))
  rw [famInt_GB p x y (m := m) rfl, famInt_GB p x y (m := m + 2) (by omega), famInt_F p x y (n := m + 2) (by omega),
    famInt_H p x y (m := m) (by omega)]
  simp only [Nat.add_zero, Qint_eq_gaussInt, QintC_eq_gaussInt, QintCC_eq_gaussInt] at h ⊢
  push_cast
  field_simp
  linarith only [h]

theorem famInt_hGA (p x y : ℝ) (hp : 0 < p) (hx : 0 < x) (hy : 0 < y) (N : Int) (hN : 1 ≤ N) :
    ((N : ℝ) - 1) * (famInt p x y).GA N = 2 * p * (famInt p x y).GA (N + 2) - 2 * y * (famInt p x y).H (N + 1)
      - 2 * x * (famInt p x y).F (N + 1) := by
  obtain ⟨m, rfl⟩ : ∃ m : ℕ, N = (m : Int) + 1 := ⟨(N - 1).toNat, by omega⟩
  have h := ibp_gauss p hp m (factor_cosh (2 * x) (by positivity)) (factor_sphI_zero (2 * y) (by positivity))
  rw [famInt_GA p x y (m := m) rfl, famInt_GA p x y (m := m + 2) (by omega), famInt_F p x y (n := m + 2) (by omega),
    famInt_H p x y (m := m) (by omega)]
  simp only [Nat.add_zero, Qint_eq_gaussInt, QintCS_eq_gaussInt, QintCC_eq_gaussInt] at h ⊢
  push_cast
  field_simp
  linarith only [h]

theorem famInt_hH (p x y : ℝ) (hp : 0 < p) (hx : 0 < x) (hy : 0 < y) (N : Int) (hN : 2 ≤ N) :
    ((N : ℝ) - 1) * (famInt p x y).H N = 2 * p * (famInt p x y).H (N + 2) - 2 * y * (famInt p x y).GA (N + 1)
      - 2 * x * (famInt p x y).GB (N + 1) := by
  obtain ⟨m, rfl⟩ : ∃ m : ℕ, N = (m : Int) + 2 := ⟨(N - 2).toNat, by omega⟩
  have h := ibp_gauss p hp m (factor_cosh (2 * x) (by positivity)) (factor_cosh (2 * y) (by positivity))
  rw [famInt_H p x y (m := m) rfl, famInt_H p x y (m := m + 2) (by omega), famInt_GA p x y (m := m + 2) (by omega),
    famInt_GB p x y (m := m + 2) (by omega)]
  simp only [QintC_eq_gaussInt, QintCS_eq_gaussInt, QintCC_eq_gaussInt] at h ⊢
  push_cast
  field_simp
  linarith only [h]

/-- the recurrence model over the integral families is the defining integral, k ≥ i + j -/
theorem Q_famInt_eq_Qint (p x y : ℝ) (hp : 0 < p) (hx : 0 < x) (hy : 0 < y) (i j k : ℕ) (hk : i + j ≤ k) :
    RadialRec.Q p x y (famInt p x y) i j (k : Int) = Qint p x y i j k :=
  Q_eq_Qint p x y hp hx hy _ (famInt_isIntegral p x y) i j k hk

/-! ## Joining with C12Cases: the generated closed forms evaluate to the defining integral (k ≥ i + j)

`C12.case_<key>` needs families satisfying `Reductions` for ALL N ≤ 0, where (except F_0) the integrals diverge and the
relations are formal.  `extend` keeps a family for N ≥ 1 and DEFINES its entries at N ≤ 0 downwards by the four relations;
so `Reductions` holds by construction, the entries the compiled code is given (`values[n]` = N = n+2, G^A_1, G^B_1, H_2)
stay what they were, and the only entry at N ≤ 0 that the recurrences reach when k ≥ i + j, F_0, is the integral F_0 by
`famInt_hF_zero`. -/

section Extend
variable {K : Type} [Field K] (p x y : K) (fam : Fam K)

/-- the four base integrals at one index -/
structure Quad4 (K : Type) where
  F : K
  GB : K
  GA : K
  H : K

def quadAt (N : Int) : Quad4 K := ⟨fam.F N, fam.GB N, fam.GA N, fam.H N⟩

/-- entries at N from the entries `a` at N+1 and `b` at N+2, by the four reduction relations -/
def redStep (N : Int) (a b : Quad4 K) : Quad4 K where
  F := (2 * p * b.F - 2 * y * a.GB - 2 * x * a.GA) / ((N : K) - 1)
  GB := (2 * p * b.GB - 2 * y * a.F - 2 * x * a.H) / ((N : K) - 1)
  GA := (2 * p * b.GA - 2 * y * a.H - 2 * x * a.F) / ((N : K) - 1)
  H := (2 * p * b.H - 2 * y * a.GA - 2 * x * a.GB) / ((N : K) - 1)

def extAt (N : Int) : Quad4 K :=
  if 1 ≤ N then quadAt fam N else redStep p x y N (extAt (N + 1)) (extAt (N + 2))
termination_by (1 - N).toNat
decreasing_by all_goals omega

/-- `fam` for N ≥ 1, continued to N ≤ 0 by the four reduction relations -/
def extend : Fam K where
  F N := (extAt p x y fam N).F
  GB N := (extAt p x y fam N).GB
  GA N := (extAt p x y fam N).GA
  H N := (extAt p x y fam N).H

theorem extAt_of_pos {N : Int} (hN : 1 ≤ N) : extAt p x y fam N = quadAt fam N := by
  rw [extAt, if_pos hN]

theorem extend_F {N : Int} (hN : 1 ≤ N) : (extend p x y fam).F N = fam.F N :=
  congrArg Quad4.F (extAt_of_pos p x y fam hN)

theorem extend_GB {N : Int} (hN : 1 ≤ N) : (extend p x y fam).GB N = fam.GB N :=
  congrArg Quad4.GB (extAt_of_pos p x y fam hN)

theorem extend_GA {N : Int} (hN : 1 ≤ N) : (extend p x y fam).GA N = fam.GA N :=
  congrArg Quad4.GA (extAt_of_pos p x y fam hN)

theorem extend_H {N : Int} (hN : 1 ≤ N) : (extend p x y fam).H N = fam.H N :=
  congrArg Quad4.H (extAt_of_pos p x y fam hN)

theorem extAt_of_nonpos {N : Int} (hN : N ≤ 0) :
    extAt p x y fam N = redStep p x y N (extAt p x y fam (N + 1)) (extAt p x y fam (N + 2)) := by
  rw [extAt, if_neg (by omega)]

theorem extend_reductions : Reductions p x y (extend p x y fam) where
  hF _ hN := congrArg Quad4.F (extAt_of_nonpos p x y fam hN)
  hGB _ hN := congrArg Quad4.GB (extAt_of_nonpos p x y fam hN)
  hGA _ hN := congrArg Quad4.GA (extAt_of_nonpos p x y fam hN)
  hH _ hN := congrArg Quad4.H (extAt_of_nonpos p x y fam hN)

theorem valuesOf_extend : valuesOf (extend p x y fam) = valuesOf fam := by
  funext n
  rw [valuesOf, extend_F p x y fam (by omega), extend_GB p x y fam (by omega), valuesOf]

end Extend

/-- F_0, the one entry at N ≤ 0 that the recurrences reach, is kept if `fam` satisfies `Reductions.hF` there -/
theorem FamIsIntegral.extend {p x y : ℝ} {fam : Fam ℝ} (hfam : FamIsIntegral p x y fam)
    (h0 : fam.F 0 = (2 * p * fam.F (0 + 2) - 2 * y * fam.GB (0 + 1) - 2 * x * fam.GA (0 + 1)) / (((0 : Int) : ℝ) - 1)) :
    FamIsIntegral p x y (extend p x y fam) where
  hF n := by
    rcases Nat.eq_zero_or_pos n with rfl | hn
    · rw [Nat.cast_zero, (extend_reductions p x y fam).hF 0 le_rfl, extend_F p x y fam (by norm_num),
        extend_GB p x y fam (by norm_num), extend_GA p x y fam (by norm_num), ← h0]
      exact hfam.hF 0
    · exact (extend_F p x y fam (by omega)).trans (hfam.hF n)
  hGB n hn := (extend_GB p x y fam (by omega)).trans (hfam.hGB n hn)

/-- the table `values[n]` (N = n + 2) the compiled code is handed, as integrals; the three special values G^A_1, G^B_1,
H_2 are written out where they are passed (`closed_form_eq_Qint`) -/
noncomputable def valuesInt (p x y : ℝ) (n : ℕ) : ℝ :=
  if n % 2 = 0 then Qint p x y 0 0 (n + 2) else QintC p x y 0 (n + 1) / (2 * y)

theorem valuesOf_famInt (p x y : ℝ) : valuesOf (famInt p x y) = valuesInt p x y := by
  funext n
  simp only [valuesOf, valuesInt, famInt_F p x y (n := n + 2) (by omega : (n : Int) + 2 = _),
    famInt_GB p x y (m := n + 1) (by omega : (n : Int) + 2 = _)]

/-- `g` is a generated `radialCase_<key>` as a function of the base values the compiled code is handed, and `hg` what
`C12.case_<key>` proves of it -/
theorem closed_form_eq_Qint (p x y : ℝ) (hp : 0 < p) (hx : 0 < x) (hy : 0 < y) (i j k : ℕ) (hk : i + j ≤ k)
    (g : (ℕ → ℝ) → ℝ → ℝ → ℝ → ℝ)
    (hg : ∀ fam : Fam ℝ, Reductions p x y fam →
      g (valuesOf fam) (fam.GA 1) (fam.GB 1) (fam.H 2) = RadialRec.Q p x y fam i j (k : Int)) :
    g (valuesInt p x y) (QintCS p x y 0 / (2 * x)) (QintC p x y 0 0 / (2 * y)) (QintCC p x y 0 / (2 * x * (2 * y)))
      = Qint p x y i j k := by
  have hI := (famInt_isIntegral p x y).extend (famInt_hF_zero p x y hp hx hy)
  have e := (hg _ (extend_reductions p x y (famInt p x y))).trans (Q_eq_Qint p x y hp hx hy _ hI i j k hk)
  rw [valuesOf_extend, valuesOf_famInt, extend_GA p x y _ le_rfl, extend_GB p x y _ le_rfl,
    extend_H p x y _ one_le_two] at e
  exact e

/-! ### the 45 generated cases with k ≥ i + j: closed form at the integral base values = the defining integral

(the other 18 keys, 301, 402, 10201, 10302, 10401, 10403, 20202, 20301, 20303, 20402, 20404, 30302, 30304, 30401, 30403, 30405, 40402, 40404, have k < i + j: their recurrences pass through divergent base integrals and only make sense through
the formal reductions; not covered here) -/

theorem case_2_eq_integral (p x y : ℝ) (hp : 0 < p) (hx : 0 < x) (hy : 0 < y) :
    Gen.radialCase_2 p x y (x*x) (y*y) (p*p) (valuesInt p x y) (QintCS p x y 0 / (2 * x)) (QintC p x y 0 0 / (2 * y))
      (QintCC p x y 0 / (2 * x * (2 * y))) = Qint p x y 0 0 2 :=
  closed_form_eq_Qint p x y hp hx hy 0 0 2 (by norm_num) _ (C12.case_2 p x y hx.ne' hy.ne')

theorem case_4_eq_integral (p x y : ℝ) (hp : 0 < p) (hx : 0 < x) (hy : 0 < y) :
    Gen.radialCase_4 p x y (x*x) (y*y) (p*p) (valuesInt p x y) (QintCS p x y 0 / (2 * x)) (QintC p x y 0 0 / (2 * y))
      (QintCC p x y 0 / (2 * x * (2 * y))) = Qint p x y 0 0 4 :=
  closed_form_eq_Qint p x y hp hx hy 0 0 4 (by norm_num) _ (C12.case_4 p x y hx.ne' hy.ne')

theorem case_6_eq_integral (p x y : ℝ) (hp : 0 < p) (hx : 0 < x) (hy : 0 < y) :
    Gen.radialCase_6 p x y (x*x) (y*y) (p*p) (valuesInt p x y) (QintCS p x y 0 / (2 * x)) (QintC p x y 0 0 / (2 * y))
      (QintCC p x y 0 / (2 * x * (2 * y))) = Qint p x y 0 0 6 :=
  closed_form_eq_Qint p x y hp hx hy 0 0 6 (by norm_num) _ (C12.case_6 p x y hx.ne' hy.ne')

theorem case_8_eq_integral (p x y : ℝ) (hp : 0 < p) (hx : 0 < x) (hy : 0 < y) :
    Gen.radialCase_8 p x y (x*x) (y*y) (p*p) (valuesInt p x y) (QintCS p x y 0 / (2 * x)) (QintC p x y 0 0 / (2 * y))
      (QintCC p x y 0 / (2 * x * (2 * y))) = Qint p x y 0 0 8 :=
  closed_form_eq_Qint p x y hp hx hy 0 0 8 (by norm_num) _ (C12.case_8 p x y hx.ne' hy.ne')

theorem case_10_eq_integral (p x y : ℝ) (hp : 0 < p) (hx : 0 < x) (hy : 0 < y) :
    Gen.radialCase_10 p x y (x*x) (y*y) (p*p) (valuesInt p x y) (QintCS p x y 0 / (2 * x)) (QintC p x y 0 0 / (2 * y))
      (QintCC p x y 0 / (2 * x * (2 * y))) = Qint p x y 0 0 10 :=
  closed_form_eq_Qint p x y hp hx hy 0 0 10 (by norm_num) _ (C12.case_10 p x y hx.ne' hy.ne')

theorem case_12_eq_integral (p x y : ℝ) (hp : 0 < p) (hx : 0 < x) (hy : 0 < y) :
    Gen.radialCase_12 p x y (x*x) (y*y) (p*p) (valuesInt p x y) (QintCS p x y 0 / (2 * x)) (QintC p x y 0 0 / (2 * y))
      (QintCC p x y 0 / (2 * x * (2 * y))) = Qint p x y 0 0 12 :=
  closed_form_eq_Qint p x y hp hx hy 0 0 12 (by norm_num) _ (C12.case_12 p x y hx.ne' hy.ne')

theorem case_101_eq_integral (p x y : ℝ) (hp : 0 < p) (hx : 0 < x) (hy : 0 < y) :
    Gen.radialCase_101 p x y (x*x) (y*y) (p*p) (valuesInt p x y) (QintCS p x y 0 / (2 * x)) (QintC p x y 0 0 / (2 * y))
      (QintCC p x y 0 / (2 * x * (2 * y))) = Qint p x y 0 1 1 :=
  closed_form_eq_Qint p x y hp hx hy 0 1 1 (by norm_num) _ (C12.case_101 p x y hx.ne' hy.ne')

theorem case_103_eq_integral (p x y : ℝ) (hp : 0 < p) (hx : 0 < x) (hy : 0 < y) :
    Gen.radialCase_103 p x y (x*x) (y*y) (p*p) (valuesInt p x y) (QintCS p x y 0 / (2 * x)) (QintC p x y 0 0 / (2 * y))
      (QintCC p x y 0 / (2 * x * (2 * y))) = Qint p x y 0 1 3 :=
  closed_form_eq_Qint p x y hp hx hy 0 1 3 (by norm_num) _ (C12.case_103 p x y hx.ne' hy.ne')

theorem case_105_eq_integral (p x y : ℝ) (hp : 0 < p) (hx : 0 < x) (hy : 0 < y) :
    Gen.radialCase_105 p x y (x*x) (y*y) (p*p) (valuesInt p x y) (QintCS p x y 0 / (2 * x)) (QintC p x y 0 0 / (2 * y))
      (QintCC p x y 0 / (2 * x * (2 * y))) = Qint p x y 0 1 5 :=
  closed_form_eq_Qint p x y hp hx hy 0 1 5 (by norm_num) _ (C12.case_105 p x y hx.ne' hy.ne')

theorem case_107_eq_integral (p x y : ℝ) (hp : 0 < p) (hx : 0 < x) (hy : 0 < y) :
    Gen.radialCase_107 p x y (x*x) (y*y) (p*p) (valuesInt p x y) (QintCS p x y 0 / (2 * x)) (QintC p x y 0 0 / (2 * y))
      (QintCC p x y 0 / (2 * x * (2 * y))) = Qint p x y 0 1 7 :=
  closed_form_eq_Qint p x y hp hx hy 0 1 7 (by norm_num) _ (C12.case_107 p x y hx.ne' hy.ne')

theorem case_109_eq_integral (p x y : ℝ) (hp : 0 < p) (hx : 0 < x) (hy : 0 < y) :
    Gen.radialCase_109 p x y (x*x) (y*y) (p*p) (valuesInt p x y) (QintCS p x y 0 / (2 * x)) (QintC p x y 0 0 / (2 * y))
      (QintCC p x y 0 / (2 * x * (2 * y))) = Qint p x y 0 1 9 :=
  closed_form_eq_Qint p x y hp hx hy 0 1 9 (by norm_num) _ (C12.case_109 p x y hx.ne' hy.ne')

theorem case_111_eq_integral (p x y : ℝ) (hp : 0 < p) (hx : 0 < x) (hy : 0 < y) :
    Gen.radialCase_111 p x y (x*x) (y*y) (p*p) (valuesInt p x y) (QintCS p x y 0 / (2 * x)) (QintC p x y 0 0 / (2 * y))
      (QintCC p x y 0 / (2 * x * (2 * y))) = Qint p x y 0 1 11 :=
  closed_form_eq_Qint p x y hp hx hy 0 1 11 (by norm_num) _ (C12.case_111 p x y hx.ne' hy.ne')

theorem case_202_eq_integral (p x y : ℝ) (hp : 0 < p) (hx : 0 < x) (hy : 0 < y) :
    Gen.radialCase_202 p x y (x*x) (y*y) (p*p) (valuesInt p x y) (QintCS p x y 0 / (2 * x)) (QintC p x y 0 0 / (2 * y))
      (QintCC p x y 0 / (2 * x * (2 * y))) = Qint p x y 0 2 2 :=
  closed_form_eq_Qint p x y hp hx hy 0 2 2 (by norm_num) _ (C12.case_202 p x y hx.ne' hy.ne')

theorem case_204_eq_integral (p x y : ℝ) (hp : 0 < p) (hx : 0 < x) (hy : 0 < y) :
    Gen.radialCase_204 p x y (x*x) (y*y) (p*p) (valuesInt p x y) (QintCS p x y 0 / (2 * x)) (QintC p x y 0 0 / (2 * y))
      (QintCC p x y 0 / (2 * x * (2 * y))) = Qint p x y 0 2 4 :=
  closed_form_eq_Qint p x y hp hx hy 0 2 4 (by norm_num) _ (C12.case_204 p x y hx.ne' hy.ne')

theorem case_206_eq_integral (p x y : ℝ) (hp : 0 < p) (hx : 0 < x) (hy : 0 < y) :
    Gen.radialCase_206 p x y (x*x) (y*y) (p*p) (valuesInt p x y) (QintCS p x y 0 / (2 * x)) (QintC p x y 0 0 / (2 * y))
      (QintCC p x y 0 / (2 * x * (2 * y))) = Qint p x y 0 2 6 :=
  closed_form_eq_Qint p x y hp hx hy 0 2 6 (by norm_num) _ (C12.case_206 p x y hx.ne' hy.ne')

theorem case_208_eq_integral (p x y : ℝ) (hp : 0 < p) (hx : 0 < x) (hy : 0 < y) :
    Gen.radialCase_208 p x y (x*x) (y*y) (p*p) (valuesInt p x y) (QintCS p x y 0 / (2 * x)) (QintC p x y 0 0 / (2 * y))
      (QintCC p x y 0 / (2 * x * (2 * y))) = Qint p x y 0 2 8 :=
  closed_form_eq_Qint p x y hp hx hy 0 2 8 (by norm_num) _ (C12.case_208 p x y hx.ne' hy.ne')

theorem case_210_eq_integral (p x y : ℝ) (hp : 0 < p) (hx : 0 < x) (hy : 0 < y) :
    Gen.radialCase_210 p x y (x*x) (y*y) (p*p) (valuesInt p x y) (QintCS p x y 0 / (2 * x)) (QintC p x y 0 0 / (2 * y))
      (QintCC p x y 0 / (2 * x * (2 * y))) = Qint p x y 0 2 10 :=
  closed_form_eq_Qint p x y hp hx hy 0 2 10 (by norm_num) _ (C12.case_210 p x y hx.ne' hy.ne')

theorem case_303_eq_integral (p x y : ℝ) (hp : 0 < p) (hx : 0 < x) (hy : 0 < y) :
    Gen.radialCase_303 p x y (x*x) (y*y) (p*p) (valuesInt p x y) (QintCS p x y 0 / (2 * x)) (QintC p x y 0 0 / (2 * y))
      (QintCC p x y 0 / (2 * x * (2 * y))) = Qint p x y 0 3 3 :=
  closed_form_eq_Qint p x y hp hx hy 0 3 3 (by norm_num) _ (C12.case_303 p x y hx.ne' hy.ne')

theorem case_305_eq_integral (p x y : ℝ) (hp : 0 < p) (hx : 0 < x) (hy : 0 < y) :
    Gen.radialCase_305 p x y (x*x) (y*y) (p*p) (valuesInt p x y) (QintCS p x y 0 / (2 * x)) (QintC p x y 0 0 / (2 * y))
      (QintCC p x y 0 / (2 * x * (2 * y))) = Qint p x y 0 3 5 :=
  closed_form_eq_Qint p x y hp hx hy 0 3 5 (by norm_num) _ (C12.case_305 p x y hx.ne' hy.ne')

theorem case_307_eq_integral (p x y : ℝ) (hp : 0 < p) (hx : 0 < x) (hy : 0 < y) :
    Gen.radialCase_307 p x y (x*x) (y*y) (p*p) (valuesInt p x y) (QintCS p x y 0 / (2 * x)) (QintC p x y 0 0 / (2 * y))
      (QintCC p x y 0 / (2 * x * (2 * y))) = Qint p x y 0 3 7 :=
  closed_form_eq_Qint p x y hp hx hy 0 3 7 (by norm_num) _ (C12.case_307 p x y hx.ne' hy.ne')

theorem case_309_eq_integral (p x y : ℝ) (hp : 0 < p) (hx : 0 < x) (hy : 0 < y) :
    Gen.radialCase_309 p x y (x*x) (y*y) (p*p) (valuesInt p x y) (QintCS p x y 0 / (2 * x)) (QintC p x y 0 0 / (2 * y))
      (QintCC p x y 0 / (2 * x * (2 * y))) = Qint p x y 0 3 9 :=
  closed_form_eq_Qint p x y hp hx hy 0 3 9 (by norm_num) _ (C12.case_309 p x y hx.ne' hy.ne')

theorem case_404_eq_integral (p x y : ℝ) (hp : 0 < p) (hx : 0 < x) (hy : 0 < y) :
    Gen.radialCase_404 p x y (x*x) (y*y) (p*p) (valuesInt p x y) (QintCS p x y 0 / (2 * x)) (QintC p x y 0 0 / (2 * y))
      (QintCC p x y 0 / (2 * x * (2 * y))) = Qint p x y 0 4 4 :=
  closed_form_eq_Qint p x y hp hx hy 0 4 4 (by norm_num) _ (C12.case_404 p x y hx.ne' hy.ne')

theorem case_406_eq_integral (p x y : ℝ) (hp : 0 < p) (hx : 0 < x) (hy : 0 < y) :
    Gen.radialCase_406 p x y (x*x) (y*y) (p*p) (valuesInt p x y) (QintCS p x y 0 / (2 * x)) (QintC p x y 0 0 / (2 * y))
      (QintCC p x y 0 / (2 * x * (2 * y))) = Qint p x y 0 4 6 :=
  closed_form_eq_Qint p x y hp hx hy 0 4 6 (by norm_num) _ (C12.case_406 p x y hx.ne' hy.ne')

theorem case_408_eq_integral (p x y : ℝ) (hp : 0 < p) (hx : 0 < x) (hy : 0 < y) :
    Gen.radialCase_408 p x y (x*x) (y*y) (p*p) (valuesInt p x y) (QintCS p x y 0 / (2 * x)) (QintC p x y 0 0 / (2 * y))
      (QintCC p x y 0 / (2 * x * (2 * y))) = Qint p x y 0 4 8 :=
  closed_form_eq_Qint p x y hp hx hy 0 4 8 (by norm_num) _ (C12.case_408 p x y hx.ne' hy.ne')

theorem case_10102_eq_integral (p x y : ℝ) (hp : 0 < p) (hx : 0 < x) (hy : 0 < y) :
    Gen.radialCase_10102 p x y (x*x) (y*y) (p*p) (valuesInt p x y) (QintCS p x y 0 / (2 * x)) (QintC p x y 0 0 / (2 * y))
      (QintCC p x y 0 / (2 * x * (2 * y))) = Qint p x y 1 1 2 :=
  closed_form_eq_Qint p x y hp hx hy 1 1 2 (by norm_num) _ (C12.case_10102 p x y hx.ne' hy.ne')

theorem case_10104_eq_integral (p x y : ℝ) (hp : 0 < p) (hx : 0 < x) (hy : 0 < y) :
    Gen.radialCase_10104 p x y (x*x) (y*y) (p*p) (valuesInt p x y) (QintCS p x y 0 / (2 * x)) (QintC p x y 0 0 / (2 * y))
      (QintCC p x y 0 / (2 * x * (2 * y))) = Qint p x y 1 1 4 :=
  closed_form_eq_Qint p x y hp hx hy 1 1 4 (by norm_num) _ (C12.case_10104 p x y hx.ne' hy.ne')

theorem case_10106_eq_integral (p x y : ℝ) (hp : 0 < p) (hx : 0 < x) (hy : 0 < y) :
    Gen.radialCase_10106 p x y (x*x) (y*y) (p*p) (valuesInt p x y) (QintCS p x y 0 / (2 * x)) (QintC p x y 0 0 / (2 * y))
      (QintCC p x y 0 / (2 * x * (2 * y))) = Qint p x y 1 1 6 :=
  closed_form_eq_Qint p x y hp hx hy 1 1 6 (by norm_num) _ (C12.case_10106 p x y hx.ne' hy.ne')

theorem case_10108_eq_integral (p x y : ℝ) (hp : 0 < p) (hx : 0 < x) (hy : 0 < y) :
    Gen.radialCase_10108 p x y (x*x) (y*y) (p*p) (valuesInt p x y) (QintCS p x y 0 / (2 * x)) (QintC p x y 0 0 / (2 * y))
      (QintCC p x y 0 / (2 * x * (2 * y))) = Qint p x y 1 1 8 :=
  closed_form_eq_Qint p x y hp hx hy 1 1 8 (by norm_num) _ (C12.case_10108 p x y hx.ne' hy.ne')

theorem case_10110_eq_integral (p x y : ℝ) (hp : 0 < p) (hx : 0 < x) (hy : 0 < y) :
    Gen.radialCase_10110 p x y (x*x) (y*y) (p*p) (valuesInt p x y) (QintCS p x y 0 / (2 * x)) (QintC p x y 0 0 / (2 * y))
      (QintCC p x y 0 / (2 * x * (2 * y))) = Qint p x y 1 1 10 :=
  closed_form_eq_Qint p x y hp hx hy 1 1 10 (by norm_num) _ (C12.case_10110 p x y hx.ne' hy.ne')

theorem case_10203_eq_integral (p x y : ℝ) (hp : 0 < p) (hx : 0 < x) (hy : 0 < y) :
    Gen.radialCase_10203 p x y (x*x) (y*y) (p*p) (valuesInt p x y) (QintCS p x y 0 / (2 * x)) (QintC p x y 0 0 / (2 * y))
      (QintCC p x y 0 / (2 * x * (2 * y))) = Qint p x y 1 2 3 :=
  closed_form_eq_Qint p x y hp hx hy 1 2 3 (by norm_num) _ (C12.case_10203 p x y hx.ne' hy.ne')

theorem case_10205_eq_integral (p x y : ℝ) (hp : 0 < p) (hx : 0 < x) (hy : 0 < y) :
    Gen.radialCase_10205 p x y (x*x) (y*y) (p*p) (valuesInt p x y) (QintCS p x y 0 / (2 * x)) (QintC p x y 0 0 / (2 * y))
      (QintCC p x y 0 / (2 * x * (2 * y))) = Qint p x y 1 2 5 :=
  closed_form_eq_Qint p x y hp hx hy 1 2 5 (by norm_num) _ (C12.case_10205 p x y hx.ne' hy.ne')

theorem case_10207_eq_integral (p x y : ℝ) (hp : 0 < p) (hx : 0 < x) (hy : 0 < y) :
    Gen.radialCase_10207 p x y (x*x) (y*y) (p*p) (valuesInt p x y) (QintCS p x y 0 / (2 * x)) (QintC p x y 0 0 / (2 * y))
      (QintCC p x y 0 / (2 * x * (2 * y))) = Qint p x y 1 2 7 :=
  closed_form_eq_Qint p x y hp hx hy 1 2 7 (by norm_num) _ (C12.case_10207 p x y hx.ne' hy.ne')

theorem case_10209_eq_integral (p x y : ℝ) (hp : 0 < p) (hx : 0 < x) (hy : 0 < y) :
    Gen.radialCase_10209 p x y (x*x) (y*y) (p*p) (valuesInt p x y) (QintCS p x y 0 / (2 * x)) (QintC p x y 0 0 / (2 * y))
      (QintCC p x y 0 / (2 * x * (2 * y))) = Qint p x y 1 2 9 :=
  closed_form_eq_Qint p x y hp hx hy 1 2 9 (by norm_num) _ (C12.case_10209 p x y hx.ne' hy.ne')

theorem case_10304_eq_integral (p x y : ℝ) (hp : 0 < p) (hx : 0 < x) (hy : 0 < y) :
    Gen.radialCase_10304 p x y (x*x) (y*y) (p*p) (valuesInt p x y) (QintCS p x y 0 / (2 * x)) (QintC p x y 0 0 / (2 * y))
      (QintCC p x y 0 / (2 * x * (2 * y))) = Qint p x y 1 3 4 :=
  closed_form_eq_Qint p x y hp hx hy 1 3 4 (by norm_num) _ (C12.case_10304 p x y hx.ne' hy.ne')

theorem case_10306_eq_integral (p x y : ℝ) (hp : 0 < p) (hx : 0 < x) (hy : 0 < y) :
    Gen.radialCase_10306 p x y (x*x) (y*y) (p*p) (valuesInt p x y) (QintCS p x y 0 / (2 * x)) (QintC p x y 0 0 / (2 * y))
      (QintCC p x y 0 / (2 * x * (2 * y))) = Qint p x y 1 3 6 :=
  closed_form_eq_Qint p x y hp hx hy 1 3 6 (by norm_num) _ (C12.case_10306 p x y hx.ne' hy.ne')

theorem case_10308_eq_integral (p x y : ℝ) (hp : 0 < p) (hx : 0 < x) (hy : 0 < y) :
    Gen.radialCase_10308 p x y (x*x) (y*y) (p*p) (valuesInt p x y) (QintCS p x y 0 / (2 * x)) (QintC p x y 0 0 / (2 * y))
      (QintCC p x y 0 / (2 * x * (2 * y))) = Qint p x y 1 3 8 :=
  closed_form_eq_Qint p x y hp hx hy 1 3 8 (by norm_num) _ (C12.case_10308 p x y hx.ne' hy.ne')

theorem case_10405_eq_integral (p x y : ℝ) (hp : 0 < p) (hx : 0 < x) (hy : 0 < y) :
    Gen.radialCase_10405 p x y (x*x) (y*y) (p*p) (valuesInt p x y) (QintCS p x y 0 / (2 * x)) (QintC p x y 0 0 / (2 * y))
      (QintCC p x y 0 / (2 * x * (2 * y))) = Qint p x y 1 4 5 :=
  closed_form_eq_Qint p x y hp hx hy 1 4 5 (by norm_num) _ (C12.case_10405 p x y hx.ne' hy.ne')

theorem case_10407_eq_integral (p x y : ℝ) (hp : 0 < p) (hx : 0 < x) (hy : 0 < y) :
    Gen.radialCase_10407 p x y (x*x) (y*y) (p*p) (valuesInt p x y) (QintCS p x y 0 / (2 * x)) (QintC p x y 0 0 / (2 * y))
      (QintCC p x y 0 / (2 * x * (2 * y))) = Qint p x y 1 4 7 :=
  closed_form_eq_Qint p x y hp hx hy 1 4 7 (by norm_num) _ (C12.case_10407 p x y hx.ne' hy.ne')

theorem case_20204_eq_integral (p x y : ℝ) (hp : 0 < p) (hx : 0 < x) (hy : 0 < y) :
    Gen.radialCase_20204 p x y (x*x) (y*y) (p*p) (valuesInt p x y) (QintCS p x y 0 / (2 * x)) (QintC p x y 0 0 / (2 * y))
      (QintCC p x y 0 / (2 * x * (2 * y))) = Qint p x y 2 2 4 :=
  closed_form_eq_Qint p x y hp hx hy 2 2 4 (by norm_num) _ (C12.case_20204 p x y hx.ne' hy.ne')

theorem case_20206_eq_integral (p x y : ℝ) (hp : 0 < p) (hx : 0 < x) (hy : 0 < y) :
    Gen.radialCase_20206 p x y (x*x) (y*y) (p*p) (valuesInt p x y) (QintCS p x y 0 / (2 * x)) (QintC p x y 0 0 / (2 * y))
      (QintCC p x y 0 / (2 * x * (2 * y))) = Qint p x y 2 2 6 :=
  closed_form_eq_Qint p x y hp hx hy 2 2 6 (by norm_num) _ (C12.case_20206 p x y hx.ne' hy.ne')

theorem case_20208_eq_integral (p x y : ℝ) (hp : 0 < p) (hx : 0 < x) (hy : 0 < y) :
    Gen.radialCase_20208 p x y (x*x) (y*y) (p*p) (valuesInt p x y) (QintCS p x y 0 / (2 * x)) (QintC p x y 0 0 / (2 * y))
      (QintCC p x y 0 / (2 * x * (2 * y))) = Qint p x y 2 2 8 :=
  closed_form_eq_Qint p x y hp hx hy 2 2 8 (by norm_num) _ (C12.case_20208 p x y hx.ne' hy.ne')

theorem case_20305_eq_integral (p x y : ℝ) (hp : 0 < p) (hx : 0 < x) (hy : 0 < y) :
    Gen.radialCase_20305 p x y (x*x) (y*y) (p*p) (valuesInt p x y) (QintCS p x y 0 / (2 * x)) (QintC p x y 0 0 / (2 * y))
      (QintCC p x y 0 / (2 * x * (2 * y))) = Qint p x y 2 3 5 :=
  closed_form_eq_Qint p x y hp hx hy 2 3 5 (by norm_num) _ (C12.case_20305 p x y hx.ne' hy.ne')

theorem case_20307_eq_integral (p x y : ℝ) (hp : 0 < p) (hx : 0 < x) (hy : 0 < y) :
    Gen.radialCase_20307 p x y (x*x) (y*y) (p*p) (valuesInt p x y) (QintCS p x y 0 / (2 * x)) (QintC p x y 0 0 / (2 * y))
      (QintCC p x y 0 / (2 * x * (2 * y))) = Qint p x y 2 3 7 :=
  closed_form_eq_Qint p x y hp hx hy 2 3 7 (by norm_num) _ (C12.case_20307 p x y hx.ne' hy.ne')

theorem case_20406_eq_integral (p x y : ℝ) (hp : 0 < p) (hx : 0 < x) (hy : 0 < y) :
    Gen.radialCase_20406 p x y (x*x) (y*y) (p*p) (valuesInt p x y) (QintCS p x y 0 / (2 * x)) (QintC p x y 0 0 / (2 * y))
      (QintCC p x y 0 / (2 * x * (2 * y))) = Qint p x y 2 4 6 :=
  closed_form_eq_Qint p x y hp hx hy 2 4 6 (by norm_num) _ (C12.case_20406 p x y hx.ne' hy.ne')

theorem case_30306_eq_integral (p x y : ℝ) (hp : 0 < p) (hx : 0 < x) (hy : 0 < y) :
    Gen.radialCase_30306 p x y (x*x) (y*y) (p*p) (valuesInt p x y) (QintCS p x y 0 / (2 * x)) (QintC p x y 0 0 / (2 * y))
      (QintCC p x y 0 / (2 * x * (2 * y))) = Qint p x y 3 3 6 :=
  closed_form_eq_Qint p x y hp hx hy 3 3 6 (by norm_num) _ (C12.case_30306 p x y hx.ne' hy.ne')

end Ecpint.C12b
