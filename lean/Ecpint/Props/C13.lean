/- C13 — angular tables.  Root of the property's theorems:
   C13a  the table construction (core Lean only): `sort3` sorts and permutes for all naturals, and exactly which entries `makeW` writes
   C13b  the closed form of the recursion `Pijk` runs, over any field of characteristic 0, and its permutation symmetry
   C13c  the closed form IS the surface integral of the monomial over the unit sphere of ℝ³ (Mathlib measure theory); odd
         exponents give 0, total mass 4π
   C13d  EVERY stored entry of the type-1 table W and of the type-2 table Ω of the model is the sphere integral of monomial × S (× S) for
         the model's own harmonic polynomials S = Σ uklm·x^i y^j z^(λ−i−j), inside the triangle
   C13e  these S are homogeneous HARMONIC polynomials (zero Laplacian), hence orthogonal to lower-degree monomials: the statements
         of C13d hold for every entry within the table limits
   C13f  for λ ≤ 2 they are the classical real spherical harmonics, and orthonormal -/
import Ecpint.Props.C13a
import Ecpint.Props.C13b
import Ecpint.Props.C13c
import Ecpint.Props.C13d
import Ecpint.Props.C13e
import Ecpint.Props.C13f
