/- C13 — angular tables: structural facts of the table construction (core Lean only): `sort3` sorts and permutes, and exactly
   which entries of the type-1 table `makeW` writes.  Model: Ecpint/Model/Angular.lean (bitwise with angular.cpp at Float). -/
import Ecpint.Model.Angular
namespace Ecpint.C13
open Ecpint.Angular

theorem sort3_sorted_all (a b c : Nat) :
    (sort3 a b c).1 ≤ (sort3 a b c).2.1 ∧ (sort3 a b c).2.1 ≤ (sort3 a b c).2.2 := by
  unfold sort3
  by_cases h1 : a ≤ b
  · by_cases h2 : b ≤ c
    · simp [h1, h2]
    · by_cases h3 : a ≤ c
      · simp [h1, h2, h3]
        omega
      · simp [h1, h2, h3]
        omega
  · by_cases h2 : a ≤ c
    · have h3 : b ≤ a := by omega
      simp [h1, h2, h3]
    · by_cases h3 : b ≤ c
      · simp [h1, h2, h3]
        omega
      · simp [h1, h2, h3]
        omega

/-- `std::sort` on three values: the model's `sort3` sorts -/
theorem sort3_sorted : ∀ a < 4, ∀ b < 4, ∀ c < 4,
    (sort3 a b c).1 ≤ (sort3 a b c).2.1 ∧ (sort3 a b c).2.1 ≤ (sort3 a b c).2.2 :=
  fun a _ b _ c _ => sort3_sorted_all a b c

theorem sort3_perm (a b c : Nat) :
    [(sort3 a b c).1, (sort3 a b c).2.1, (sort3 a b c).2.2].Perm [a, b, c] := by
  unfold sort3
  by_cases h1 : a ≤ b
  · by_cases h2 : b ≤ c
    · simp [h1, h2]
    · by_cases h3 : a ≤ c
      · simp only [h1, h2, h3, if_true, if_false]
        exact (List.Perm.swap b c []).cons a
      · simp only [h1, h2, h3, if_true, if_false]
        exact (List.Perm.swap a c [b]).trans ((List.Perm.swap b c []).cons a)
  · by_cases h2 : a ≤ c
    · simp only [h1, h2, if_true, if_false]
      by_cases h3 : b ≤ a
      · simp only [h3, if_true]
        exact List.Perm.swap a b [c]
      · exact absurd (by omega) h3
    · by_cases h3 : b ≤ c
      · simp only [h1, h2, h3, if_true, if_false]
        exact ((List.Perm.swap a c []).cons b).trans (List.Perm.swap a b [c])
      · simp only [h1, h2, h3, if_false]
        exact (List.Perm.swap b c [a]).trans
          (((List.Perm.swap a c []).cons b).trans (List.Perm.swap a b [c]))

/-- exactly which entries of the type-1 table the loops of `makeW` write, and with which μ -/
theorem wWritten_spec (maxLam k l m lam idx mu : Nat) :
    wWritten maxLam k l m lam idx = some mu ↔
      (lam % 2 = (k + l + m) % 2 ∧ lam ≤ min maxLam (k + l + m) ∧ mu % 2 = (k + l) % 2 ∧ mu ≤ lam ∧
        ((l % 2 = 0 ∧ idx = lam + mu) ∨ (l % 2 = 1 ∧ idx + mu = lam))) := by
  unfold wWritten
  simp only []
  constructor
  · intro h
    split at h
    next c1 =>
      obtain ⟨c11, c12⟩ := c1
      split at h
      next c2 =>
        have := Option.some.inj h
        obtain ⟨c21, c22, c23, c24⟩ := c2
        refine ⟨c11, c12, ?_, ?_, ?_⟩
        · rw [← this]
          exact c24
        · omega
        · left
          omega
      next c2 =>
        split at h
        next c3 =>
          have := Option.some.inj h
          obtain ⟨c31, c32, c33⟩ := c3
          refine ⟨c11, c12, ?_, ?_, ?_⟩
          · rw [← this]
            exact c33
          · omega
          · right
            omega
        next c3 => cases h
    next c1 => cases h
  · rintro ⟨h1, h2, h3, h4, h5⟩
    rw [if_pos ⟨h1, h2⟩]
    rcases h5 with ⟨h5, h6⟩ | ⟨h5, h6⟩
    · have e : idx - lam = mu := by omega
      rw [if_pos ⟨by omega, by omega, by omega, by rw [e]; exact h3⟩, e]
    · have e : lam - idx = mu := by omega
      rw [if_neg (by intro hh; exact hh.1 h5), if_pos ⟨h5, by omega, by rw [e]; exact h3⟩, e]

theorem wWritten_parity (maxLam k l m lam idx : Nat) (h : lam % 2 ≠ (k + l + m) % 2 ∨ lam > k + l + m) :
    wWritten maxLam k l m lam idx = none := by
  rcases hw : wWritten maxLam k l m lam idx with _ | mu
  · rfl
  · have hs := (wWritten_spec maxLam k l m lam idx mu).mp hw
    omega

end Ecpint.C13
