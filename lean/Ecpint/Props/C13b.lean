/- C13 (part b) — the monomial sphere integrals the angular tables are built from: the recursion `Pijk` runs has, over any field
   of characteristic 0, the closed form 4π(2i−1)!!(2j−1)!!(2k−1)!!/(2(i+j+k)+1)!!, which depends on the multiset of exponents only,
   so that sorting them first (as `makeW` does) is harmless.
   Definitions: Ecpint/Model/Angular.lean (`pijkWith`, `sort3`), bit for bit with angular.cpp at Float. -/
import Ecpint.Props.C13a
import Mathlib.Data.Nat.Factorial.DoubleFactorial
import Mathlib.Tactic.FieldSimp
namespace Ecpint.C13
open Ecpint.Angular

/-- (2n − 1)!! with (−1)!! = 1 -/
def oddFact (n : Nat) : Nat := if n = 0 then 1 else (2 * n - 1).doubleFactorial

theorem oddFact_zero : oddFact 0 = 1 := rfl

/-- the case distinction in `oddFact` is immaterial: in ℕ, 2·0 − 1 = 0 and 0‼ = 1 -/
theorem oddFact_eq (n : Nat) : oddFact n = (2 * n - 1).doubleFactorial := by
  unfold oddFact
  split_ifs with h
  · rw [h]
    rfl
  · rfl

theorem oddFact_succ' (n : Nat) : oddFact (n + 1) = (2 * n + 1).doubleFactorial := by
  rw [oddFact_eq, show 2 * (n + 1) - 1 = 2 * n + 1 by omega]

theorem oddFact_succ (n : Nat) : oddFact (n + 1) = (2 * n + 1) * oddFact n := by
  cases n with
  | zero => simp [oddFact]
  | succ m =>
    rw [oddFact_succ', oddFact_succ']
    have : 2 * (m + 1) + 1 = (2 * m + 1) + 2 := by ring
    rw [this, Nat.doubleFactorial_add_two]

theorem odd_df_succ (m : Nat) :
    (2 * (m + 1) + 1).doubleFactorial = (2 * m + 3) * (2 * m + 1).doubleFactorial := by
  have : 2 * (m + 1) + 1 = (2 * m + 1) + 2 := by ring
  rw [this, Nat.doubleFactorial_add_two]

theorem doubleFactorial_cast_ne_zero {K : Type} [Field K] [CharZero K] (n : Nat) : (n.doubleFactorial : K) ≠ 0 :=
  Nat.cast_ne_zero.mpr (Nat.pos_iff_ne_zero.mp (Nat.doubleFactorial_pos _))

/-- an odd natural number, in whatever form the casts have left it, is not 0 in K -/
theorem ne_zero_of_eq_odd {K : Type} [Field K] [CharZero K] {x : K} (n : Nat) (h : x = ((2 * n + 1 : Nat) : K)) : x ≠ 0 := by
  rw [h]
  exact Nat.cast_ne_zero.mpr (by omega)

/-- one of the two folds of `pijkWith`, started from A / (2c+1)!! -/
theorem fold_closed {K : Type} [Field K] [CharZero K] (c : Nat) (A : K) (n : Nat) :
    (List.range n).foldl (fun (v : K) (t : Nat) =>
      let jj : Nat := t + 1
      let ij : Nat := c + jj
      v * (((2 : Nat) : K) * (jj : K) - 1) / (((2 : Nat) : K) * (ij : K) + 1))
      (A / ((2 * c + 1).doubleFactorial : K))
    = A * (oddFact n : K) / ((2 * (c + n) + 1).doubleFactorial : K) := by
  induction n with
  | zero => simp [oddFact]
  | succ n ih =>
    rw [List.range_succ, List.foldl_append, ih]
    simp only [List.foldl_cons, List.foldl_nil]
    have e1 : c + (n + 1) = (c + n) + 1 := by ring
    rw [oddFact_succ, e1, odd_df_succ]
    have h1 : ((2 * (c + n) + 1).doubleFactorial : K) ≠ 0 := doubleFactorial_cast_ne_zero _
    have h2 : ((2 : K) * ((c : K) + (n : K)) + 3) ≠ 0 := ne_zero_of_eq_odd (c + n + 1) (by push_cast; ring)
    have h3 : ((2 : K) * ((c : K) + (n : K) + 1) + 1) ≠ 0 := ne_zero_of_eq_odd (c + n + 1) (by push_cast; ring)
    push_cast
    field_simp
    ring

theorem v0_closed {K : Type} [Field K] [CharZero K] (pi4 : K) (i : Nat) :
    (if i = 0 then pi4 else pi4 / (((2 * i + 1 : Nat) : Nat) : K))
      = pi4 * (oddFact i : K) / ((2 * i + 1).doubleFactorial : K) := by
  cases i with
  | zero => simp [oddFact]
  | succ m =>
    rw [if_neg (Nat.succ_ne_zero m), oddFact_succ', odd_df_succ]
    have h1 : ((2 * m + 1).doubleFactorial : K) ≠ 0 := doubleFactorial_cast_ne_zero _
    have h2 : ((2 : K) * (m : K) + 3) ≠ 0 := ne_zero_of_eq_odd (m + 1) (by push_cast; ring)
    have h3 : ((2 : K) * ((m : K) + 1) + 1) ≠ 0 := ne_zero_of_eq_odd (m + 1) (by push_cast; ring)
    push_cast
    field_simp
    ring

/-- the recursion `Pijk` runs, for any i, j, k (the code calls it with i ≥ j ≥ k): the classical value of
∫ x^{2i} y^{2j} z^{2k} over the unit sphere -/
theorem pijkWith_closed {K : Type} [Field K] [CharZero K] (pi4 : K) (i j k : Nat) :
    pijkWith pi4 i j k
      = pi4 * (oddFact i : K) * (oddFact j : K) * (oddFact k : K) / ((2 * (i + j + k) + 1).doubleFactorial : K) := by
  unfold pijkWith
  simp only []
  rw [v0_closed, fold_closed i, fold_closed (i + j)]

/-- the closed form depends on the multiset of exponents only -/
theorem pijkWith_closed_list {K : Type} [Field K] [CharZero K] (pi4 : K) (i j k : Nat) :
    pijkWith pi4 i j k = pi4 * (([i, j, k].map fun n => (oddFact n : K)).prod)
      / ((2 * [i, j, k].sum + 1).doubleFactorial : K) := by
  rw [pijkWith_closed]
  simp only [List.map_cons, List.map_nil, List.prod_cons, List.prod_nil, List.sum_cons, List.sum_nil, mul_one, add_zero,
    mul_assoc, add_assoc]

theorem pijkWith_of_perm {K : Type} [Field K] [CharZero K] (pi4 : K) {i j k i' j' k' : Nat}
    (h : [i, j, k].Perm [i', j', k']) : pijkWith pi4 i j k = pijkWith pi4 i' j' k' := by
  rw [pijkWith_closed_list, pijkWith_closed_list, (h.map _).prod_eq, h.sum_eq]

theorem pijkWith_sort3 {K : Type} [Field K] [CharZero K] (p : K) (a b c : Nat) :
    pijkWith p ((sort3 a b c).2.2 / 2) ((sort3 a b c).2.1 / 2) ((sort3 a b c).1 / 2)
      = pijkWith p (a / 2) (b / 2) (c / 2) :=
  pijkWith_of_perm p (((List.reverse_perm _).trans (sort3_perm a b c)).map (· / 2))

end Ecpint.C13
