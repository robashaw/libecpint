/- C13 (part c) — the sphere integral of every monomial x^a y^b z^c over the unit sphere of ℝ³ (surface measure
   σ = volume.toSphere, total mass 4π): 0 if an exponent is odd, and for even exponents the closed form proved in C13b
   for the recursion `Pijk`.
   Route: the Gaussian trick.  ∫_{ℝ³} x^a y^b z^c e^{-|v|²} dv is computed twice, by Fubini (product of three Gaussian
   moments) and in polar coordinates (sphere integral × radial Gaussian moment).
   Helper lemmas: Ecpint/Lemmas/SphereInt.lean. -/
import Ecpint.Lemmas.SphereInt
import Ecpint.Props.C13b
import Mathlib.Analysis.SpecialFunctions.Gaussian.GaussianIntegral

namespace Ecpint.C13c
open MeasureTheory Set Metric Real
open scoped Nat

abbrev E3 := EuclideanSpace ℝ (Fin 3)

noncomputable abbrev σ : Measure (sphere (0 : E3) 1) := (volume : Measure E3).toSphere

def mono (a b c : ℕ) (v : E3) : ℝ := v 0 ^ a * v 1 ^ b * v 2 ^ c

/-- the quantity that `Pijk` of angular.cpp tabulates for even exponents (`pijkWith_eq_monoInt`) -/
noncomputable def monoInt (a b c : ℕ) : ℝ := ∫ u : sphere (0 : E3) 1, mono a b c u.1 ∂σ

theorem mono_smul (a b c : ℕ) (r : ℝ) (v : E3) : mono a b c (r • v) = r ^ (a + b + c) * mono a b c v := by
  simp only [mono, PiLp.smul_apply, smul_eq_mul]
  ring

theorem norm_sq_E3 (v : E3) : ‖v‖ ^ 2 = v 0 ^ 2 + v 1 ^ 2 + v 2 ^ 2 := by
  rw [EuclideanSpace.norm_sq_eq, Fin.sum_univ_three]
  simp only [Real.norm_eq_abs, sq_abs]

theorem integral_mono_gauss_prod (a b c : ℕ) :
    ∫ v : E3, mono a b c v * exp (-‖v‖ ^ 2)
      = (∫ t : ℝ, t ^ a * exp (-t ^ 2)) * (∫ t : ℝ, t ^ b * exp (-t ^ 2)) * (∫ t : ℝ, t ^ c * exp (-t ^ 2)) := by
  have := SphereInt.integral_euclidean_prod (ι := Fin 3)
    (fun i t => t ^ (![a, b, c] i) * exp (-t ^ 2))
  simp only [Fin.prod_univ_three, Matrix.cons_val_zero, Matrix.cons_val_one, Matrix.cons_val] at this
  rw [← this]
  refine integral_congr_ae (.of_forall fun v => ?_)
  simp only [mono, norm_sq_E3, neg_add, Real.exp_add]
  ring

theorem integral_mono_gauss_polar (a b c : ℕ) :
    ∫ v : E3, mono a b c v * exp (-‖v‖ ^ 2)
      = monoInt a b c * ∫ r in Ioi (0 : ℝ), r ^ (a + b + c + 2) * exp (-r ^ 2) := by
  have := SphereInt.integral_sphere_mul_radial (volume : Measure E3)
    (fun v => mono a b c v * exp (-‖v‖ ^ 2)) (fun u => mono a b c u.1)
    (fun r => r ^ (a + b + c) * exp (-r ^ 2))
    (by
      intro u r hr
      have hu : ‖u.1‖ = 1 := by simp
      simp only [mono_smul, norm_smul, hu, mul_one, Real.norm_eq_abs, sq_abs]
      ring)
  rw [this, finrank_euclideanSpace_fin]
  unfold monoInt
  congr 1
  refine setIntegral_congr_fun measurableSet_Ioi fun r _ => ?_
  ring

theorem gauss_moments_eq_sphere (a b c : ℕ) :
    (∫ t : ℝ, t ^ a * exp (-t ^ 2)) * (∫ t : ℝ, t ^ b * exp (-t ^ 2)) * (∫ t : ℝ, t ^ c * exp (-t ^ 2))
      = monoInt a b c * (1 / 2 * Gamma ((((a + b + c + 2 : ℕ) : ℝ) + 1) / 2)) := by
  rw [← integral_mono_gauss_prod, integral_mono_gauss_polar, SphereInt.integral_Ioi_pow_mul_exp_neg_sq]

theorem monoInt_even_gamma (i j k : ℕ) :
    monoInt (2 * i) (2 * j) (2 * k)
      = 2 * Gamma ((i : ℝ) + 1 / 2) * Gamma ((j : ℝ) + 1 / 2) * Gamma ((k : ℝ) + 1 / 2)
          / Gamma ((i : ℝ) + j + k + 3 / 2) := by
  have h := gauss_moments_eq_sphere (2 * i) (2 * j) (2 * k)
  simp only [SphereInt.integral_pow_even_mul_exp_neg_sq] at h
  have e : (((2 * i + 2 * j + 2 * k + 2 : ℕ) : ℝ) + 1) / 2 = (i : ℝ) + j + k + 3 / 2 := by
    push_cast
    ring
  rw [e] at h
  have hpos : 0 < Gamma ((i : ℝ) + j + k + 3 / 2) := Gamma_pos_of_pos (by positivity)
  rw [eq_div_iff hpos.ne']
  linarith

theorem monoInt_even (i j k : ℕ) :
    monoInt (2 * i) (2 * j) (2 * k)
      = 4 * π * ((C13.oddFact i * C13.oddFact j * C13.oddFact k : ℕ) : ℝ) / (((2 * (i + j + k) + 1)‼ : ℕ) : ℝ) := by
  rw [monoInt_even_gamma, Gamma_nat_add_half, Gamma_nat_add_half, Gamma_nat_add_half]
  have e : (i : ℝ) + j + k + 3 / 2 = ((i + j + k : ℕ) : ℝ) + 1 + 1 / 2 := by
    push_cast
    ring
  rw [e, Gamma_nat_add_one_add_half]
  have h2 : ((2 : ℝ) ^ (i + j + k + 1)) = 2 * (2 ^ i * 2 ^ j * 2 ^ k) := by ring
  rw [h2]
  simp only [C13.oddFact_eq]
  push_cast
  field_simp
  rw [Real.sq_sqrt pi_pos.le]
  norm_num

theorem integral_pow_odd_mul_exp_neg_sq {a : ℕ} (ha : Odd a) : ∫ t : ℝ, t ^ a * exp (-t ^ 2) = 0 := by
  have h := integral_neg_eq_self (fun t : ℝ => t ^ a * exp (-t ^ 2)) volume
  simp only [ha.neg_pow, neg_sq, neg_mul] at h
  rw [integral_neg] at h
  linarith

theorem monoInt_odd (a b c : ℕ) (h : a % 2 = 1 ∨ b % 2 = 1 ∨ c % 2 = 1) : monoInt a b c = 0 := by
  have hg := gauss_moments_eq_sphere a b c
  have hpos : 0 < Gamma ((((a + b + c + 2 : ℕ) : ℝ) + 1) / 2) := Gamma_pos_of_pos (by positivity)
  have h0 : (∫ t : ℝ, t ^ a * exp (-t ^ 2)) * (∫ t : ℝ, t ^ b * exp (-t ^ 2)) * (∫ t : ℝ, t ^ c * exp (-t ^ 2)) = 0 := by
    simp only [← Nat.odd_iff] at h
    rcases h with h | h | h <;> simp [integral_pow_odd_mul_exp_neg_sq h]
  rw [h0] at hg
  exact (mul_eq_zero.mp hg.symm).resolve_right (mul_pos one_half_pos hpos).ne'

/-- in ℕ, 2·0 − 1 = 0 and 0‼ = 1, so (−1)!! = 1 is built in -/
theorem monoInt_closed (a b c : ℕ) :
    monoInt a b c = if a % 2 = 0 ∧ b % 2 = 0 ∧ c % 2 = 0 then
      4 * π * (((a - 1)‼ * (b - 1)‼ * (c - 1)‼ : ℕ) : ℝ) / (((a + b + c + 1)‼ : ℕ) : ℝ) else 0 := by
  split_ifs with h
  · obtain ⟨i, rfl⟩ : ∃ i, a = 2 * i := ⟨a / 2, by omega⟩
    obtain ⟨j, rfl⟩ : ∃ j, b = 2 * j := ⟨b / 2, by omega⟩
    obtain ⟨k, rfl⟩ : ∃ k, c = 2 * k := ⟨c / 2, by omega⟩
    rw [monoInt_even, show 2 * i + 2 * j + 2 * k + 1 = 2 * (i + j + k) + 1 by ring]
    simp only [C13.oddFact_eq]
  · exact monoInt_odd a b c (by omega)

theorem sphere_total_mass : σ.real univ = 4 * Real.pi := by
  have := monoInt_even 0 0 0
  simpa [monoInt, mono, C13.oddFact] using this

theorem sphere_total_mass_ennreal : σ univ = ENNReal.ofReal (4 * Real.pi) := by
  rw [← sphere_total_mass, ofReal_measureReal]

/-- link to the model: the recursion `Pijk` of angular.cpp, run over ℝ with the constant 4π, computes the sphere integral -/
theorem pijkWith_eq_monoInt (i j k : ℕ) :
    Ecpint.Angular.pijkWith (4 * Real.pi) i j k = monoInt (2 * i) (2 * j) (2 * k) := by
  rw [Ecpint.C13.pijkWith_closed, monoInt_even]
  push_cast
  ring

end Ecpint.C13c
