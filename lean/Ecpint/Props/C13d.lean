/- C13 (part d) — the angular tables W (type 1) and Ω (type 2) of `AngularIntegral` are sphere integrals of
   monomial × (Cartesian form of the model's harmonics).  Definitions: Ecpint/Model/Angular.lean.
   For ANY coefficient table the entries `makeW` writes and what one `makeOmega` iteration accumulates are such integrals by
   linearity: the loops add coefficient × monomial integral.  For the model's own coefficients `uklm` the entries NOT written
   (they hold 0) need a vanishing integral: the selection rules of `uklm` put each harmonic in a parity class, and parity
   alone settles lam ≤ k+l+m resp. the triangle condition (below the degree of the harmonic the integral vanishes by
   harmonicity, not parity; the `_core` theorems isolate that hypothesis, Ecpint/Props/C13e.lean discharges it).
   At the end: the factorial table over ℝ. -/
import Ecpint.Props.C13c
import Ecpint.Lemmas.Angular
import Ecpint.Lemmas.FoldSumFinset
import Ecpint.Lemmas.ArrayLemmas
import Mathlib.Analysis.SpecialFunctions.Complex.Arg
import Mathlib.Analysis.SpecialFunctions.Trigonometric.Basic
import Mathlib.Analysis.SpecialFunctions.Log.Basic
import Mathlib.Algebra.Order.Floor.Ring

namespace Ecpint.C13d
open MeasureTheory Metric
open Ecpint.Angular Ecpint.C13 Ecpint.C13c

/-- the real numbers as scalars of the numerical pipeline -/
noncomputable instance instFltReal : Ecpint.Flt ℝ :=
  { exp := Real.exp, log := Real.log, sqrt := Real.sqrt, sin := Real.sin, cos := Real.cos,
    atan2 := fun y x => Complex.arg ⟨x, y⟩, abs := fun x => |x|, pi := Real.pi,
    floorNat := fun x => ⌊x⌋₊, ofRat := fun n d => (n : ℝ) / (d : ℝ),
    decLt := fun _ _ => Classical.propDecidable _, decLe := fun _ _ => Classical.propDecidable _ }

-- the operations the instance hands to the model are definitionally Mathlib's on ℝ, so `ring` and the cast lemmas apply to model terms
example (a b : ℝ) (n : ℕ) : (Flt.toAdd.add a b) * ((n : ℕ) : ℝ) = (n : ℝ) * b + n * a := by
  show (a + b) * (n : ℝ) = _
  ring

theorem pijk_real (i j k : ℕ) : pijk (α := ℝ) i j k = pijkWith (4 * Real.pi) i j k := by
  unfold pijk
  norm_num
  rfl

/-- the Cartesian form of the harmonic S_{lam, ±mu} with coefficient table `U` (c = 0 cos-type, c = 1 sin-type) -/
noncomputable def SU (U : ℕ → ℕ → ℕ → ℕ → ℕ → ℝ) (lam mu c : ℕ) (v : E3) : ℝ :=
  ∑ i ∈ Finset.range (lam + 1), ∑ j ∈ Finset.range (lam - i + 1),
    U lam mu i j c * v 0 ^ i * v 1 ^ j * v 2 ^ (lam - i - j)

/-- every monomial integral is what `makeW` adds for that monomial -/
theorem monoInt_eq (a b d : ℕ) :
    monoInt a b d = if a % 2 + b % 2 + d % 2 = 0 then
      pijk (α := ℝ) ((sort3 a b d).2.2 / 2) ((sort3 a b d).2.1 / 2) ((sort3 a b d).1 / 2) else 0 := by
  by_cases h : a % 2 + b % 2 + d % 2 = 0
  · obtain ⟨ea, eb, ed⟩ : 2 * (a / 2) = a ∧ 2 * (b / 2) = b ∧ 2 * (d / 2) = d := by omega
    rw [if_pos h, pijk_real, pijkWith_sort3, pijkWith_eq_monoInt, ea, eb, ed]
  · rw [if_neg h]
    exact monoInt_odd a b d (by omega)

theorem continuous_mono (a b c : ℕ) : Continuous fun u : sphere (0 : E3) 1 => mono a b c u.1 := by
  unfold mono
  fun_prop

theorem continuous_SU (U : ℕ → ℕ → ℕ → ℕ → ℕ → ℝ) (lam mu c : ℕ) :
    Continuous fun u : sphere (0 : E3) 1 => SU U lam mu c u.1 := by
  unfold SU
  fun_prop

theorem integrable_of_continuous {f : sphere (0 : E3) 1 → ℝ} (hf : Continuous f) : Integrable f σ :=
  hf.integrable_of_hasCompactSupport (HasCompactSupport.of_compactSpace f)

theorem integrable_continuous_mul {f T : sphere (0 : E3) 1 → ℝ} (hf : Continuous f) (hT : Integrable T σ) :
    Integrable (fun u => f u * T u) σ := by
  obtain ⟨C, hC⟩ := (HasCompactSupport.of_compactSpace f).exists_bound_of_continuous hf
  exact hT.bdd_mul hf.aestronglyMeasurable (.of_forall hC)

theorem integral_mono_SU_mul (U : ℕ → ℕ → ℕ → ℕ → ℕ → ℝ) (T : sphere (0 : E3) 1 → ℝ) (hT : Integrable T σ)
    (k l m lam mu c : ℕ) :
    ∫ u : sphere (0 : E3) 1, (u.1 0) ^ k * (u.1 1) ^ l * (u.1 2) ^ m * SU U lam mu c u.1 * T u ∂σ
      = ∑ i ∈ Finset.range (lam + 1), ∑ j ∈ Finset.range (lam - i + 1),
          U lam mu i j c *
            ∫ u : sphere (0 : E3) 1, (u.1 0) ^ (k + i) * (u.1 1) ^ (l + j) * (u.1 2) ^ (m + lam - i - j) * T u ∂σ := by
  unfold SU
  simp only [Finset.mul_sum, Finset.sum_mul]
  rw [integral_finsetSum _ (fun i _ => integrable_finsetSum _ fun j _ =>
    integrable_continuous_mul (by fun_prop) hT)]
  refine Finset.sum_congr rfl fun i hi => ?_
  rw [integral_finsetSum _ (fun j _ => integrable_continuous_mul (by fun_prop) hT)]
  refine Finset.sum_congr rfl fun j hj => ?_
  rw [← integral_const_mul]
  refine integral_congr_ae (.of_forall fun u => ?_)
  have e : m + lam - i - j = m + (lam - i - j) := by
    simp only [Finset.mem_range] at hi hj
    omega
  simp only [e]
  ring

theorem integral_mono_SU (U : ℕ → ℕ → ℕ → ℕ → ℕ → ℝ) (k l m lam mu c : ℕ) :
    ∫ u : sphere (0 : E3) 1, (u.1 0) ^ k * (u.1 1) ^ l * (u.1 2) ^ m * SU U lam mu c u.1 ∂σ
      = ∑ i ∈ Finset.range (lam + 1), ∑ j ∈ Finset.range (lam - i + 1),
          U lam mu i j c * monoInt (k + i) (l + j) (m + lam - i - j) := by
  have h := integral_mono_SU_mul U (fun _ => 1) (integrable_const _) k l m lam mu c
  simpa only [mul_one, monoInt, mono] using h

/-- every entry of the type-1 table that `makeW` writes, for ANY coefficient table U: the harmonic is of cos-type for even l,
of sin-type for odd l -/
theorem wEntry_eq_sphere_integral (U : ℕ → ℕ → ℕ → ℕ → ℕ → ℝ) (maxLam k l m lam idx mu : ℕ)
    (h : wWritten maxLam k l m lam idx = some mu) :
    wEntry U (pijk (α := ℝ)) maxLam k l m lam idx
      = ∫ u : sphere (0 : E3) 1, (u.1 0) ^ k * (u.1 1) ^ l * (u.1 2) ^ m * SU U lam mu (l % 2) u.1 ∂σ := by
  rw [integral_mono_SU]
  unfold wEntry
  rw [h]
  simp only [FoldSum.foldl_ite_add_eq_sum, FoldSum.foldl_add_eq_sum, FoldSum.sum_map_range, zero_add]
  refine Finset.sum_congr rfl fun i _ => Finset.sum_congr rfl fun j _ => ?_
  rw [monoInt_eq]
  split_ifs <;> simp

/-- one `makeOmega` iteration, given only the W entries it READS; the harmonic it multiplies in is of cos-type for `om_plus`,
of sin-type for `om_minus` (and `om_minus = om_plus` for mu = 0) -/
theorem omegaIter_eq_sphere_integral_of_reads (U : ℕ → ℕ → ℕ → ℕ → ℕ → ℝ) (Wf : ℕ → ℕ → ℕ → ℕ → ℕ → ℝ)
    (T : sphere (0 : E3) 1 → ℝ) (hT : Integrable T σ) (k l m rho sig lam mu : ℕ) (minus : Bool)
    (hW : ∀ i j, i ≤ lam → j ≤ lam - i → Wf (k + i) (l + j) (m + lam - i - j) rho sig
      = ∫ u : sphere (0 : E3) 1, (u.1 0) ^ (k + i) * (u.1 1) ^ (l + j) * (u.1 2) ^ (m + lam - i - j) * T u ∂σ) :
    omegaIter U Wf k l m rho sig lam mu minus
      = ∫ u : sphere (0 : E3) 1, (u.1 0) ^ k * (u.1 1) ^ l * (u.1 2) ^ m
          * SU U lam mu (if minus = true ∧ mu ≠ 0 then 1 else 0) u.1 * T u ∂σ := by
  rw [integral_mono_SU_mul U T hT]
  unfold omegaIter
  simp only [FoldSum.foldl_add_eq_sum, FoldSum.sum_map_range, zero_add]
  refine Finset.sum_congr rfl fun i hi => Finset.sum_congr rfl fun j hj => ?_
  simp only [Finset.mem_range] at hi hj
  rw [hW i j (by omega) (by omega)]

/-- one `makeOmega` iteration with a W table that is, for ALL its arguments, the sphere integral of monomial × T(rho, sig) -/
theorem omegaIter_eq_sphere_integral (U : ℕ → ℕ → ℕ → ℕ → ℕ → ℝ) (Wf : ℕ → ℕ → ℕ → ℕ → ℕ → ℝ)
    (T : ℕ → ℕ → sphere (0 : E3) 1 → ℝ) (hT : ∀ rho sig, Integrable (T rho sig) σ)
    (hW : ∀ k l m rho sig, Wf k l m rho sig
      = ∫ u : sphere (0 : E3) 1, (u.1 0) ^ k * (u.1 1) ^ l * (u.1 2) ^ m * T rho sig u ∂σ)
    (k l m rho sig lam mu : ℕ) (minus : Bool) :
    omegaIter U Wf k l m rho sig lam mu minus
      = ∫ u : sphere (0 : E3) 1, (u.1 0) ^ k * (u.1 1) ^ l * (u.1 2) ^ m
          * SU U lam mu (if minus = true ∧ mu ≠ 0 then 1 else 0) u.1 * T rho sig u ∂σ :=
  omegaIter_eq_sphere_integral_of_reads U Wf (T rho sig) (hT rho sig) k l m rho sig lam mu minus
    fun _ _ _ _ => hW _ _ _ _ _

noncomputable def par (c l : ℕ) : ℝ := if l % 2 = c then 1 else 0

/-- the type of harmonic a (mu, c) slot holds: cos-type for mu = 0 or c = 0, sin-type otherwise -/
def ceff (mu c : ℕ) : ℕ := if mu = 0 ∨ c = 0 then 0 else 1

/-- the last lines of `uklm`: the cos-type value carries the factor 1 − l % 2, the sin-type value the factor l % 2, and for
mu = 0 both slots hold the cos-type value times `s` = 1/√2 -/
theorem uklm_slot (u s : ℝ) (mu c l : ℕ) :
    (if mu = 0 then u * ((1 - l % 2 : ℕ) : ℝ) * s else if c = 0 then u * ((1 - l % 2 : ℕ) : ℝ) else u * ((l % 2 : ℕ) : ℝ))
      = u * (if mu = 0 then s else 1) * par (ceff mu c) l := by
  unfold par ceff
  rcases Nat.mod_two_eq_zero_or_one l with hl | hl <;> by_cases hm : mu = 0 <;> by_cases hc : c = 0 <;> simp [hm, hc, hl]

/-- `uklm` in one formula, for ANY factorial table (the two sums as the code runs them) -/
theorem uklm_eq (fac : Array ℝ) (lam mu k l c : ℕ) :
    uklm fac lam mu k l c = if mu ≤ k + l ∧ (k + l - mu) % 2 = 0 then
      calcG fac lam mu
        * (∑ t ∈ Finset.range ((lam - mu) / 2 + 1 - (k + l - mu) / 2),
            calcH1 fac ((k + l - mu) / 2 + t) ((k + l - mu) / 2) lam mu)
        * (∑ i ∈ Finset.range ((k + l - mu) / 2 + 1), calcH2 fac i ((k + l - mu) / 2) k mu)
        * (if mu = 0 then 1 / √2 else 1) * par (ceff mu c) l
    else 0 := by
  unfold uklm
  simp only [FoldSum.foldl_add_eq_sum, FoldSum.sum_map_range, zero_add, Nat.cast_ofNat]
  exact if_congr Iff.rfl (uklm_slot _ _ mu c l) rfl

/-- the selection rules `uklm` encodes for the coefficient of x^k y^l z^(lam−k−l) in S_{lam, ±mu} -/
theorem uklm_ne_zero (fac : Array ℝ) (lam mu k l c : ℕ) (h : uklm fac lam mu k l c ≠ 0) :
    mu ≤ k + l ∧ (k + l - mu) % 2 = 0 ∧ (if mu = 0 ∨ c = 0 then l % 2 = 0 else l % 2 = 1) := by
  rw [uklm_eq] at h
  by_cases h1 : mu ≤ k + l ∧ (k + l - mu) % 2 = 0
  · rw [if_pos h1] at h
    have hp : l % 2 = ceff mu c := by
      by_contra hne
      exact right_ne_zero_of_mul h (if_neg hne)
    refine ⟨h1.1, h1.2, ?_⟩
    rw [hp]
    unfold ceff
    split_ifs <;> rfl
  · exact absurd (if_neg h1) h

/-- for mu = 0 there is one harmonic only: the sin-type slot holds a copy of the cos-type one -/
theorem uklm_mu_zero (fac : Array ℝ) (lam k l c : ℕ) : uklm fac lam 0 k l c = uklm fac lam 0 k l 0 := by
  rw [uklm_eq, uklm_eq]
  rfl

/-- the harmonic polynomial of the model stored at index `idx` = lam + (signed mu): S_{lam, idx − lam} -/
noncomputable def Sidx (fac : Array ℝ) (lam idx : ℕ) (v : E3) : ℝ :=
  SU (uklm fac) lam (if idx ≥ lam then idx - lam else lam - idx) (if idx < lam then 1 else 0) v

theorem continuous_Sidx (fac : Array ℝ) (lam idx : ℕ) : Continuous fun u : sphere (0 : E3) 1 => Sidx fac lam idx u.1 :=
  continuous_SU _ _ _ _

theorem Sidx_of_le (fac : Array ℝ) {lam idx : ℕ} (h : lam ≤ idx) (v : E3) :
    Sidx fac lam idx v = SU (uklm fac) lam (idx - lam) 0 v := by
  unfold Sidx
  rw [if_pos h, if_neg (by omega)]

theorem Sidx_of_lt (fac : Array ℝ) {lam idx : ℕ} (h : idx < lam) (v : E3) :
    Sidx fac lam idx v = SU (uklm fac) lam (lam - idx) 1 v := by
  unfold Sidx
  rw [if_neg (by omega), if_pos h]

theorem SU_eq_zero_of_lt (fac : Array ℝ) (lam mu c : ℕ) (h : lam < mu) (v : E3) : SU (uklm fac) lam mu c v = 0 := by
  unfold SU
  refine Finset.sum_eq_zero fun i hi => Finset.sum_eq_zero fun j hj => ?_
  simp only [Finset.mem_range] at hi hj
  by_cases hU : uklm fac lam mu i j c = 0
  · simp only [hU, zero_mul]
  · have := (uklm_ne_zero _ _ _ _ _ _ hU).1
    omega

end Ecpint.C13d

/-! ### the parity class of a harmonic: which exponent parities its monomials have, coordinate by coordinate
(these names are shared with Props/C08b, where the reflections of the whole pipeline are treated) -/
namespace Ecpint.C08b
open MeasureTheory Metric
open Ecpint.Angular Ecpint.C13c Ecpint.C13d

/-- the q-th component of a triple (q = 0, 1, anything else: x, y, z) -/
def ecomp (q : Nat) (c : Nat × Nat × Nat) : Nat := if q = 0 then c.1 else if q = 1 then c.2.1 else c.2.2

theorem ecomp_add (q k1 l1 m1 k2 l2 m2 : Nat) :
    ecomp q (k1 + k2, l1 + l2, m1 + m2) = ecomp q (k1, l1, m1) + ecomp q (k2, l2, m2) := by
  unfold ecomp
  split_ifs <;> rfl

/-- |mu| of the harmonic stored at index idx = lam + (signed mu) -/
def muOf (lam idx : ℕ) : ℕ := if idx ≥ lam then idx - lam else lam - idx
/-- 1 for the sin-type harmonics (idx < lam), 0 for the cos-type ones -/
def cOf (lam idx : ℕ) : ℕ := if idx < lam then 1 else 0

/-- parity of the exponent of coordinate q in every monomial of the harmonic polynomial S_{lam, idx − lam}:
x: |mu| + [sin-type], y: [sin-type], z: lam − |mu| ≡ idx -/
def parR (q lam idx : ℕ) : ℕ :=
  if q = 0 then muOf lam idx + cOf lam idx else if q = 1 then cOf lam idx else idx

theorem parR_eq_ecomp (q lam idx : ℕ) : parR q lam idx = ecomp q (muOf lam idx + cOf lam idx, cOf lam idx, idx) := rfl

/-- |mu| and the type of the harmonic stored at `idx`, as linear facts -/
theorem muOf_cOf_cases (lam idx : ℕ) :
    (lam ≤ idx ∧ muOf lam idx = idx - lam ∧ cOf lam idx = 0) ∨ (idx < lam ∧ muOf lam idx = lam - idx ∧ cOf lam idx = 1) := by
  unfold muOf cOf
  rcases Nat.lt_or_ge idx lam with h | h
  · exact Or.inr ⟨h, by rw [if_neg (by omega)], by rw [if_pos h]⟩
  · exact Or.inl ⟨h, by rw [if_pos h], by rw [if_neg (by omega)]⟩

theorem ecomp_mod_two_congr {q a b c a' b' c' : ℕ} (h : a % 2 = a' % 2 ∧ b % 2 = b' % 2 ∧ c % 2 = c' % 2) :
    ecomp q (a, b, c) % 2 = ecomp q (a', b', c') % 2 := by
  unfold ecomp
  split_ifs
  · exact h.1
  · exact h.2.1
  · exact h.2.2

theorem Sidx_def (fac : Array ℝ) (lam idx : ℕ) (v : E3) :
    Sidx fac lam idx v = SU (uklm fac) lam (muOf lam idx) (cOf lam idx) v := rfl

/-- the selection rules of `uklm` as a parity statement for coordinate q -/
theorem uklm_parity (fac : Array ℝ) (q lam idx i j : ℕ) (hi : i ≤ lam) (hj : j ≤ lam - i)
    (h : uklm fac lam (muOf lam idx) i j (cOf lam idx) ≠ 0) :
    ecomp q (i, j, lam - i - j) % 2 = parR q lam idx % 2 := by
  obtain ⟨r1, r2, r3⟩ := uklm_ne_zero _ _ _ _ _ _ h
  rw [parR_eq_ecomp]
  rcases muOf_cOf_cases lam idx with ⟨hge, e1, e2⟩ | ⟨hlt, e1, e2⟩
  · rw [e2, if_pos (Or.inr rfl)] at r3
    exact ecomp_mod_two_congr (by omega)
  · rw [e2, if_neg (by omega)] at r3
    exact ecomp_mod_two_congr (by omega)

theorem monoInt_odd_q (q a b c : ℕ) (h : ecomp q (a, b, c) % 2 = 1) : monoInt a b c = 0 := by
  refine monoInt_odd a b c ?_
  unfold ecomp at h
  split_ifs at h
  · exact Or.inl h
  · exact Or.inr (Or.inl h)
  · exact Or.inr (Or.inr h)

/-- parity selection for monomial × harmonic × T, for a factor T whose own monomial integrals vanish when the exponent of
coordinate q has the parity opposite to `n` -/
theorem mono_Sidx_mul_integral_zero (fac : Array ℝ) (q : ℕ) (T : sphere (0 : E3) 1 → ℝ) (hT : Integrable T σ) (n : ℕ)
    (hz : ∀ a b c, (ecomp q (a, b, c) + n) % 2 = 1 →
      ∫ u : sphere (0 : E3) 1, (u.1 0) ^ a * (u.1 1) ^ b * (u.1 2) ^ c * T u ∂σ = 0)
    (k l m lam idx : ℕ) (h : (ecomp q (k, l, m) + parR q lam idx + n) % 2 = 1) :
    ∫ u : sphere (0 : E3) 1, (u.1 0) ^ k * (u.1 1) ^ l * (u.1 2) ^ m * Sidx fac lam idx u.1 * T u ∂σ = 0 := by
  simp only [Sidx_def]
  rw [integral_mono_SU_mul _ T hT]
  refine Finset.sum_eq_zero fun i hi => Finset.sum_eq_zero fun j hj => ?_
  simp only [Finset.mem_range] at hi hj
  by_cases hU : uklm fac lam (muOf lam idx) i j (cOf lam idx) = 0
  · rw [hU, zero_mul]
  · have hp := uklm_parity fac q lam idx i j (by omega) (by omega) hU
    rw [hz, mul_zero]
    have e : m + lam - i - j = m + (lam - i - j) := by omega
    rw [e, ecomp_add]
    omega

theorem mono_Sidx_integral_zero (fac : Array ℝ) (q k l m lam idx : ℕ)
    (h : (ecomp q (k, l, m) + parR q lam idx) % 2 = 1) :
    ∫ u : sphere (0 : E3) 1, (u.1 0) ^ k * (u.1 1) ^ l * (u.1 2) ^ m * Sidx fac lam idx u.1 ∂σ = 0 := by
  have := mono_Sidx_mul_integral_zero fac q (fun _ => 1) (integrable_const _) 0
    (fun a b c h => by simpa only [mul_one, monoInt, mono] using monoInt_odd_q q a b c h) k l m lam idx h
  simpa only [mul_one] using this

theorem mono_Sidx_Sidx_integral_zero (fac : Array ℝ) (q k l m a ia b ib : ℕ)
    (h : (ecomp q (k, l, m) + parR q a ia + parR q b ib) % 2 = 1) :
    ∫ u : sphere (0 : E3) 1, (u.1 0) ^ k * (u.1 1) ^ l * (u.1 2) ^ m * Sidx fac a ia u.1 * Sidx fac b ib u.1 ∂σ = 0 :=
  mono_Sidx_mul_integral_zero fac q _ (integrable_of_continuous (continuous_Sidx fac b ib)) (parR q b ib)
    (fun x y z hxyz => mono_Sidx_integral_zero fac q x y z b ib hxyz) k l m a ia h

end Ecpint.C08b

namespace Ecpint.C13d
open MeasureTheory Metric Real
open Ecpint.Angular Ecpint.AngularLemmas Ecpint.C13 Ecpint.C13c Ecpint.C08b

theorem unwritten_odd_axis (M k l m lam idx : ℕ) (h1 : lam ≤ M) (h2 : lam ≤ k + l + m) (hidx : idx ≤ 2 * lam)
    (h : wWritten M k l m lam idx = none) : ∃ q, (ecomp q (k, l, m) + parR q lam idx) % 2 = 1 := by
  by_contra hne
  have ev : ∀ q, (ecomp q (k, l, m) + parR q lam idx) % 2 = 0 := fun q => by
    have := not_exists.mp hne q
    omega
  have e0 : (k + (muOf lam idx + cOf lam idx)) % 2 = 0 := ev 0
  have e1 : (l + cOf lam idx) % 2 = 0 := ev 1
  have e2 : (m + idx) % 2 = 0 := ev 2
  -- even in all three coordinates: the entry is written, with mu = |idx − lam|
  have hw : wWritten M k l m lam idx = some (muOf lam idx) := by
    rw [wWritten_spec]
    rcases muOf_cOf_cases lam idx with ⟨hge, f1, f2⟩ | ⟨hlt, f1, f2⟩
    · omega
    · omega
  rw [h] at hw
  cases hw

/-- for an entry `makeW` does not write (0 in the table by `wEntry_of_none`) the sphere integral vanishes by parity: some
coordinate has an odd exponent in every monomial with a non-zero coefficient -/
theorem unwritten_integral_zero (fac : Array ℝ) (maxLam k l m lam idx : ℕ) (h1 : lam ≤ maxLam) (h2 : lam ≤ k + l + m)
    (h : wWritten maxLam k l m lam idx = none) :
    ∫ u : sphere (0 : E3) 1, (u.1 0) ^ k * (u.1 1) ^ l * (u.1 2) ^ m * Sidx fac lam idx u.1 ∂σ = 0 := by
  by_cases hidx : idx ≤ 2 * lam
  · obtain ⟨q, hq⟩ := unwritten_odd_axis maxLam k l m lam idx h1 h2 hidx h
    exact mono_Sidx_integral_zero fac q k l m lam idx hq
  · simp only [Sidx_of_le fac (show lam ≤ idx by omega), SU_eq_zero_of_lt fac lam _ 0 (show lam < idx - lam by omega),
      mul_zero, integral_zero]

theorem wEntry_low_degree (U : ℕ → ℕ → ℕ → ℕ → ℕ → ℝ) (P : ℕ → ℕ → ℕ → ℝ) (maxLam k l m lam idx : ℕ)
    (h : k + l + m < lam) : wEntry U P maxLam k l m lam idx = 0 :=
  wEntry_of_none U P maxLam k l m lam idx (wWritten_parity maxLam k l m lam idx (Or.inr h))

/-- the whole type-1 table of the model (written or not): for lam ≤ k + l + m by parity alone; for
k + l + m < lam the entry is 0 and equals the integral provided S_{lam} is orthogonal to that monomial of lower degree -/
theorem wEntry_uklm_core (fac : Array ℝ) (maxLam k l m lam idx : ℕ) (h1 : lam ≤ maxLam)
    (h : k + l + m < lam →
      ∫ u : sphere (0 : E3) 1, (u.1 0) ^ k * (u.1 1) ^ l * (u.1 2) ^ m * Sidx fac lam idx u.1 ∂σ = 0) :
    wEntry (uklm fac) (pijk (α := ℝ)) maxLam k l m lam idx
      = ∫ u : sphere (0 : E3) 1, (u.1 0) ^ k * (u.1 1) ^ l * (u.1 2) ^ m * Sidx fac lam idx u.1 ∂σ := by
  by_cases h2 : lam ≤ k + l + m
  · rcases hw : wWritten maxLam k l m lam idx with _ | mu
    · rw [unwritten_integral_zero fac maxLam k l m lam idx h1 h2 hw, wEntry_of_none _ _ _ _ _ _ _ _ hw]
    · rw [wEntry_eq_sphere_integral _ _ _ _ _ _ _ _ hw]
      obtain ⟨-, -, -, -, ⟨e1, e2⟩ | ⟨e1, e2⟩⟩ := (wWritten_spec _ _ _ _ _ _ _).mp hw
      · -- l even: the cos-type harmonic at idx = lam + mu
        simp only [e2, Sidx_of_le fac (Nat.le_add_right lam mu), Nat.add_sub_cancel_left, e1]
      · -- l odd: the sin-type harmonic at idx = lam − mu; for mu = 0 its slot holds a copy of the cos-type one
        rcases Nat.eq_zero_or_pos mu with hmu | hmu
        · have e3 : idx = lam := by omega
          simp only [hmu, e3, Sidx_of_le fac (Nat.le_refl lam), Nat.sub_self, SU, uklm_mu_zero fac lam _ _ (l % 2)]
        · have e3 : lam - idx = mu := by omega
          simp only [Sidx_of_lt fac (show idx < lam by omega), e3, e1]
  · rw [h (by omega), wEntry_low_degree _ _ _ _ _ _ _ _ (by omega)]

theorem omegaIter_model_core (fac : Array ℝ) (maxLam k l m rho sig lam mu : ℕ) (minus : Bool) (h1 : rho ≤ maxLam)
    (h : k + l + m + lam < rho → ∀ a b c, a + b + c = k + l + m + lam →
      ∫ u : sphere (0 : E3) 1, (u.1 0) ^ a * (u.1 1) ^ b * (u.1 2) ^ c * Sidx fac rho sig u.1 ∂σ = 0) :
    omegaIter (uklm fac) (wEntry (uklm fac) (pijk (α := ℝ)) maxLam) k l m rho sig lam mu minus
      = ∫ u : sphere (0 : E3) 1, (u.1 0) ^ k * (u.1 1) ^ l * (u.1 2) ^ m
          * SU (uklm fac) lam mu (if minus = true ∧ mu ≠ 0 then 1 else 0) u.1 * Sidx fac rho sig u.1 ∂σ := by
  refine omegaIter_eq_sphere_integral_of_reads (uklm fac) _ (fun u => Sidx fac rho sig u.1)
    (integrable_of_continuous (continuous_Sidx fac rho sig)) k l m rho sig lam mu minus fun i j hi hj => ?_
  exact wEntry_uklm_core fac maxLam _ _ _ rho sig h1 fun hlt => h (by omega) _ _ _ (by omega)

/-- one `makeOmega` iteration on the model's own tables, inside the triangle rho ≤ k + l + m + lam -/
theorem omegaIter_model_eq_sphere_integral (fac : Array ℝ) (maxLam k l m rho sig lam mu : ℕ) (minus : Bool)
    (h1 : rho ≤ maxLam) (h2 : rho ≤ k + l + m + lam) :
    omegaIter (uklm fac) (wEntry (uklm fac) (pijk (α := ℝ)) maxLam) k l m rho sig lam mu minus
      = ∫ u : sphere (0 : E3) 1, (u.1 0) ^ k * (u.1 1) ^ l * (u.1 2) ^ m
          * SU (uklm fac) lam mu (if minus = true ∧ mu ≠ 0 then 1 else 0) u.1 * Sidx fac rho sig u.1 ∂σ :=
  omegaIter_model_core fac maxLam k l m rho sig lam mu minus h1 (fun hlt => absurd hlt (by omega))

/-- outside the triangle (k + l + m + lam < rho) the iteration reads unwritten entries only and accumulates 0 -/
theorem omegaIter_model_outside (U : ℕ → ℕ → ℕ → ℕ → ℕ → ℝ) (P : ℕ → ℕ → ℕ → ℝ) (maxLam k l m rho sig lam mu : ℕ)
    (minus : Bool) (h : k + l + m + lam < rho) :
    omegaIter U (wEntry U P maxLam) k l m rho sig lam mu minus = 0 := by
  unfold omegaIter
  simp only [FoldSum.foldl_add_eq_sum, FoldSum.sum_map_range, zero_add]
  refine Finset.sum_eq_zero fun i hi => Finset.sum_eq_zero fun j hj => ?_
  simp only [Finset.mem_range] at hi hj
  rw [wEntry_low_degree _ _ _ _ _ _ _ _ (by omega), mul_zero]

/-- the harmonic an iteration multiplies in (|σ| and the `om_minus` flag of the signed index) is the one stored at that index -/
theorem SU_signed (fac : Array ℝ) (b ib : ℕ) (v : E3) :
    SU (uklm fac) b (if ib ≥ b then ib - b else b - ib)
      (if decide (ib < b) = true ∧ (if ib ≥ b then ib - b else b - ib) ≠ 0 then 1 else 0) v = Sidx fac b ib v := by
  rcases Nat.lt_or_ge ib b with h | h
  · rw [Sidx_of_lt fac h, if_neg (by omega), if_pos ⟨decide_eq_true h, by omega⟩]
  · rw [Sidx_of_le fac h, if_pos h, if_neg fun hh => absurd (of_decide_eq_true hh.1) (by omega)]

theorem omegaEntry_model_core (fac : Array ℝ) (maxLam k l m a ia b ib : ℕ) (ha : a ≤ maxLam) (hb : b ≤ maxLam)
    (hA : k + l + m + b < a → ∀ x y z, x + y + z = k + l + m + b →
      ∫ u : sphere (0 : E3) 1, (u.1 0) ^ x * (u.1 1) ^ y * (u.1 2) ^ z * Sidx fac a ia u.1 ∂σ = 0)
    (hB : k + l + m + a < b → ∀ x y z, x + y + z = k + l + m + a →
      ∫ u : sphere (0 : E3) 1, (u.1 0) ^ x * (u.1 1) ^ y * (u.1 2) ^ z * Sidx fac b ib u.1 ∂σ = 0) :
    omegaEntry (uklm fac) (wEntry (uklm fac) (pijk (α := ℝ)) maxLam) k l m a ia b ib
      = ∫ u : sphere (0 : E3) 1, (u.1 0) ^ k * (u.1 1) ^ l * (u.1 2) ^ m
          * Sidx fac a ia u.1 * Sidx fac b ib u.1 ∂σ := by
  rcases omegaEntry_eq_iter (uklm fac) (wEntry (uklm fac) (pijk (α := ℝ)) maxLam) k l m a ia b ib with ⟨-, e⟩ | ⟨-, e⟩
  · -- S_a sits in the W table, S_b is multiplied in
    rw [e, omegaIter_model_core fac maxLam k l m a ia b _ _ ha hA]
    simp only [SU_signed]
    exact integral_congr_ae (.of_forall fun u => by ring)
  · rw [e, omegaIter_model_core fac maxLam k l m b ib a _ _ hb hB]
    simp only [SU_signed]

/-- every entry of the type-2 table the model stores, inside the triangle |a − b| ≤ k + l + m, is the sphere integral of
monomial × S_{a, ia − a} × S_{b, ib − b} for the model's own harmonic polynomials -/
theorem omegaEntry_model_eq_sphere_integral (fac : Array ℝ) (maxLam k l m a ia b ib : ℕ) (ha : a ≤ maxLam)
    (hb : b ≤ maxLam) (hab : a ≤ k + l + m + b) (hba : b ≤ k + l + m + a) :
    omegaEntry (uklm fac) (wEntry (uklm fac) (pijk (α := ℝ)) maxLam) k l m a ia b ib
      = ∫ u : sphere (0 : E3) 1, (u.1 0) ^ k * (u.1 1) ^ l * (u.1 2) ^ m
          * Sidx fac a ia u.1 * Sidx fac b ib u.1 ∂σ :=
  omegaEntry_model_core fac maxLam k l m a ia b ib ha hb (fun h => absurd h (by omega)) (fun h => absurd h (by omega))

/-- outside the triangle the stored entry is 0 -/
theorem omegaEntry_model_outside (U : ℕ → ℕ → ℕ → ℕ → ℕ → ℝ) (P : ℕ → ℕ → ℕ → ℝ) (maxLam k l m a ia b ib : ℕ)
    (h : k + l + m + b < a ∨ k + l + m + a < b) :
    omegaEntry U (wEntry U P maxLam) k l m a ia b ib = 0 := by
  rcases omegaEntry_eq_iter U (wEntry U P maxLam) k l m a ia b ib with ⟨hba, e⟩ | ⟨hab, e⟩
  · rw [e]
    exact omegaIter_model_outside _ _ _ _ _ _ _ _ _ _ _ (by omega)
  · rw [e]
    exact omegaIter_model_outside _ _ _ _ _ _ _ _ _ _ _ (by omega)

open scoped Nat

theorem facTable_eq (n : ℕ) : facTable (α := ℝ) n
    = (List.range' 1 (n - 1)).foldl (fun (a : Array ℝ) (i : ℕ) => a.push ((i : ℝ) * a[i - 1]!)) #[1] := by
  unfold facTable
  simp

theorem facTable_spec (n i : ℕ) (hi : i < n) : (facTable (α := ℝ) n)[i]! = ((i ! : ℕ) : ℝ) := by
  rw [facTable_eq, List.range'_eq_map_range, List.foldl_map]
  refine (ArrayLemmas.foldl_push (fun i => ((i ! : ℕ) : ℝ)) (fun a k => ((1 + k : ℕ) : ℝ) * a[1 + k - 1]!) #[1]
    (fun j hj => ?_) (fun a k hs hv => ?_) (n - 1)).2 i ?_
  · have hj1 : j < 1 := hj
    interval_cases j
    simp
  · have hs1 : a.size = k + 1 := hs.trans (Nat.add_comm 1 k)
    rw [Nat.add_sub_cancel_left, hv k (by omega), hs1, Nat.factorial_succ, Nat.cast_mul, Nat.add_comm 1 k]
  · show i < 1 + (n - 1)
    omega

@[simp] theorem flt_sqrt (x : ℝ) : Flt.sqrt x = √x := rfl
@[simp] theorem flt_pi : (Flt.pi : ℝ) = π := rfl

end Ecpint.C13d
