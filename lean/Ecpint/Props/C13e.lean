/- C13 (part e) — harmonic homogeneous polynomials are orthogonal, on the unit sphere, to every polynomial of lower degree;
   the model's S_{lam, mu} (Cartesian coefficients `uklm`) are harmonic; hence the type-1 / type-2 angular tables of
   `AngularIntegral` are the sphere integrals for ALL their entries (C13d needs the triangle condition).
   Polynomials are `MvPolynomial (Fin 3) ℝ`, the Laplacian a sum of `pderiv`s.  Orthogonality: Euler's identity for the harmonic
   factor and the divergence property (d + 2) ∫ x_i p = ∫ ∂_i p of the sphere integral, read off the closed form of the monomial
   integrals; induction on the lower degree.  Harmonicity: the double sum over (k, l) with coefficients `uklm` is regrouped into
   N · (Σ_i α_i r^{2i} z^{lam−mu−2i}) · Re/Im (x + i y)^mu (`SU_factored`), and the two-term recurrence of the α_i (`alpha_rec`)
   makes the Laplacian of such a product vanish.
   Orders ≤ 2 explicitly: Ecpint/Props/C13f.lean. -/
import Ecpint.Props.C13d
import Mathlib.RingTheory.MvPolynomial.EulerIdentity
import Mathlib.Topology.Algebra.MvPolynomial

namespace Ecpint.C13e
open MeasureTheory Metric MvPolynomial
open Ecpint.Angular Ecpint.C13 Ecpint.C13c Ecpint.C13d

abbrev P3 := MvPolynomial (Fin 3) ℝ

noncomputable def lap (p : P3) : P3 := ∑ i : Fin 3, pderiv i (pderiv i p)

theorem pderiv_comm (i j : Fin 3) (p : P3) : pderiv i (pderiv j p) = pderiv j (pderiv i p) := by
  by_cases hij : i = j
  · rw [hij]
  ext m
  simp only [coeff_pderiv, Finsupp.add_apply, Finsupp.single_apply, if_neg hij, if_neg (Ne.symm hij), add_zero]
  rw [add_right_comm m]
  ring

theorem lap_pderiv (i : Fin 3) (p : P3) : lap (pderiv i p) = pderiv i (lap p) := by
  unfold lap
  rw [map_sum]
  exact Finset.sum_congr rfl fun j _ => by rw [pderiv_comm j i, pderiv_comm j i]

theorem lap_C_mul (c : ℝ) (p : P3) : lap (C c * p) = C c * lap p := by
  unfold lap
  simp only [pderiv_C_mul, Finset.mul_sum]

/-- a linear functional with the divergence-theorem property of the sphere integral
((d+2) ∫_S x_i p = ∫_S ∂_i p for p homogeneous of degree d) kills (lower degree) × (harmonic) -/
theorem orth_abstract (L : P3 →ₗ[ℝ] ℝ)
    (hL : ∀ (d : ℕ) (p : P3), p.IsHomogeneous d → ∀ i, ((d : ℝ) + 2) * L (X i * p) = L (pderiv i p)) :
    ∀ m n : ℕ, m < n → ∀ h p : P3, h.IsHomogeneous n → lap h = 0 → p.IsHomogeneous m → L (p * h) = 0 := by
  -- Euler's identity for the harmonic factor (degree n + 1), then the divergence property term by term;
  -- Σ_i L(p ∂_i∂_i h) = L(p Δh) = 0
  have key : ∀ (m n : ℕ) (h p : P3), h.IsHomogeneous (n + 1) → lap h = 0 → p.IsHomogeneous m →
      ((n : ℝ) + 1) * (((m + n : ℕ) : ℝ) + 2) * L (p * h) = ∑ i : Fin 3, L (pderiv i p * pderiv i h) := by
    intro m n h p hh hlap hp
    have hd : ∀ i : Fin 3, (((m + n : ℕ) : ℝ) + 2) * L (X i * (p * pderiv i h))
        = L (pderiv i p * pderiv i h) + L (p * pderiv i (pderiv i h)) := fun i => by
      rw [hL (m + n) _ (hp.mul (by simpa using hh.pderiv (i := i))) i, pderiv_mul, map_add]
    have hE : p * ((n + 1) • h) = ∑ i : Fin 3, X i * (p * pderiv i h) := by
      rw [← hh.sum_X_mul_pderiv, Finset.mul_sum]
      exact Finset.sum_congr rfl fun i _ => by ring
    have h0 : ∑ i : Fin 3, L (p * pderiv i (pderiv i h)) = 0 := by
      rw [← map_sum, ← Finset.mul_sum]
      exact (congrArg (fun q => L (p * q)) hlap).trans (by rw [mul_zero, map_zero])
    calc ((n : ℝ) + 1) * (((m + n : ℕ) : ℝ) + 2) * L (p * h)
        = (((m + n : ℕ) : ℝ) + 2) * L (p * ((n + 1) • h)) := by
          rw [mul_smul_comm, map_nsmul, nsmul_eq_mul]
          push_cast
          ring
      _ = ∑ i : Fin 3, (L (pderiv i p * pderiv i h) + L (p * pderiv i (pderiv i h))) := by
          rw [hE, map_sum, Finset.mul_sum]
          exact Finset.sum_congr rfl fun i _ => hd i
      _ = _ := by rw [Finset.sum_add_distrib, h0, add_zero]
  intro m
  induction m with
  | zero =>
    intro n hmn h p hh hlap hp
    obtain ⟨n, rfl⟩ := Nat.exists_eq_add_one_of_ne_zero hmn.ne'
    have hk := key 0 n h p hh hlap hp
    rw [← totalDegree_zero_iff_isHomogeneous, totalDegree_eq_zero_iff_eq_C] at hp
    rw [hp] at hk ⊢
    simp only [pderiv_C, zero_mul, map_zero, Finset.sum_const_zero] at hk
    exact (mul_eq_zero.mp hk).resolve_left (by positivity)
  | succ m ih =>
    intro n hmn h p hh hlap hp
    obtain ⟨n, rfl⟩ := Nat.exists_eq_add_one_of_ne_zero (Nat.ne_zero_of_lt hmn)
    have hk := key (m + 1) n h p hh hlap hp
    rw [Finset.sum_eq_zero fun i _ => ih n (by omega) _ _ (by simpa using hh.pderiv (i := i))
      (by rw [lap_pderiv, hlap, map_zero]) (by simpa using hp.pderiv (i := i))] at hk
    exact (mul_eq_zero.mp hk).resolve_left (by positivity)

/-! the sphere integral has the divergence property (checked on monomials with the closed form) -/

open scoped Nat

theorem monoInt_shift0 (a b c : ℕ) :
    (((a + b + c : ℕ) : ℝ) + 2) * monoInt (a + 1) b c = (a : ℝ) * monoInt (a - 1) b c := by
  by_cases h : a % 2 = 1 ∧ b % 2 = 0 ∧ c % 2 = 0
  · obtain ⟨i, rfl⟩ := Nat.odd_iff.mpr h.1
    obtain ⟨j, rfl⟩ := (Nat.even_iff.mpr h.2.1).two_dvd
    obtain ⟨k, rfl⟩ := (Nat.even_iff.mpr h.2.2).two_dvd
    have e2 : i + 1 + j + k = (i + j + k) + 1 := by ring
    rw [show 2 * i + 1 + 1 = 2 * (i + 1) from rfl, Nat.add_sub_cancel, monoInt_even, monoInt_even, oddFact_succ, e2,
      odd_df_succ]
    have hd : (((2 * (i + j + k) + 1)‼ : ℕ) : ℝ) ≠ 0 := doubleFactorial_cast_ne_zero _
    push_cast
    field_simp
    ring
  · -- an odd exponent on both sides, or a = 0
    rw [monoInt_odd (a + 1) b c (by omega), mul_zero]
    rcases Nat.eq_zero_or_pos a with h0 | h0
    · rw [h0, Nat.cast_zero, zero_mul]
    · rw [monoInt_odd (a - 1) b c (by omega), mul_zero]

theorem monoInt_swap01 (a b c : ℕ) : monoInt a b c = monoInt b a c := by
  rw [monoInt_closed, monoInt_closed]
  have e : b + a + c + 1 = a + b + c + 1 := by omega
  rw [e, Nat.mul_comm (b - 1)‼ (a - 1)‼]
  by_cases h : a % 2 = 0 ∧ b % 2 = 0 ∧ c % 2 = 0
  · rw [if_pos h, if_pos ⟨h.2.1, h.1, h.2.2⟩]
  · rw [if_neg h, if_neg (by tauto)]

theorem monoInt_swap02 (a b c : ℕ) : monoInt a b c = monoInt c b a := by
  rw [monoInt_closed, monoInt_closed]
  have e : c + b + a + 1 = a + b + c + 1 := by omega
  have e2 : (c - 1)‼ * (b - 1)‼ * (a - 1)‼ = (a - 1)‼ * (b - 1)‼ * (c - 1)‼ := by ring
  rw [e, e2]
  by_cases h : a % 2 = 0 ∧ b % 2 = 0 ∧ c % 2 = 0
  · rw [if_pos h, if_pos ⟨h.2.2, h.2.1, h.1⟩]
  · rw [if_neg h, if_neg (by tauto)]

theorem monoInt_shift1 (a b c : ℕ) :
    (((a + b + c : ℕ) : ℝ) + 2) * monoInt a (b + 1) c = (b : ℝ) * monoInt a (b - 1) c := by
  rw [monoInt_swap01 a (b + 1) c, monoInt_swap01 a (b - 1) c, ← monoInt_shift0]
  congr 3
  omega

theorem monoInt_shift2 (a b c : ℕ) :
    (((a + b + c : ℕ) : ℝ) + 2) * monoInt a b (c + 1) = (c : ℝ) * monoInt a b (c - 1) := by
  rw [monoInt_swap02 a b (c + 1), monoInt_swap02 a b (c - 1), ← monoInt_shift0]
  congr 3
  omega

noncomputable def evS (u : sphere (0 : E3) 1) (p : P3) : ℝ := eval (fun i => u.1 i) p

theorem continuous_evS (p : P3) : Continuous fun u : sphere (0 : E3) 1 => evS u p := by
  unfold evS
  exact (MvPolynomial.continuous_eval p).comp (continuous_pi fun i => by fun_prop)

noncomputable def sphereL : P3 →ₗ[ℝ] ℝ where
  toFun p := ∫ u : sphere (0 : E3) 1, evS u p ∂σ
  map_add' p q := by
    simp only [evS, map_add]
    exact integral_add (integrable_of_continuous (continuous_evS p)) (integrable_of_continuous (continuous_evS q))
  map_smul' c p := by
    simp only [evS, smul_eval, RingHom.id_apply, smul_eq_mul]
    exact integral_const_mul _ _

theorem evS_monomial (u : sphere (0 : E3) 1) (s : Fin 3 →₀ ℕ) (c : ℝ) :
    evS u (monomial s c) = c * mono (s 0) (s 1) (s 2) u.1 := by
  unfold evS mono
  rw [eval_monomial, Finsupp.prod_fintype _ _ (fun i => pow_zero _), Fin.prod_univ_three]

theorem sphereL_monomial (s : Fin 3 →₀ ℕ) (c : ℝ) : sphereL (monomial s c) = c * monoInt (s 0) (s 1) (s 2) := by
  show ∫ u : sphere (0 : E3) 1, evS u (monomial s c) ∂σ = _
  simp only [evS_monomial]
  rw [integral_const_mul]
  rfl

theorem degree_fin3 (v : Fin 3 →₀ ℕ) : Finsupp.weight (1 : Fin 3 → ℕ) v = v 0 + v 1 + v 2 := by
  rw [show Finsupp.weight (1 : Fin 3 → ℕ) = Finsupp.degree from Finsupp.degree_eq_weight_one.symm,
    Finsupp.degree_eq_sum, Fin.sum_univ_three]

/-- the three shifts as one statement about the exponent vector -/
theorem monoInt_shift (i : Fin 3) (s : Fin 3 →₀ ℕ) :
    (((s 0 + s 1 + s 2 : ℕ) : ℝ) + 2)
        * monoInt ((Finsupp.single i 1 + s : Fin 3 →₀ ℕ) 0) ((Finsupp.single i 1 + s : Fin 3 →₀ ℕ) 1)
            ((Finsupp.single i 1 + s : Fin 3 →₀ ℕ) 2)
      = (s i : ℝ) * monoInt ((s - Finsupp.single i 1 : Fin 3 →₀ ℕ) 0) ((s - Finsupp.single i 1 : Fin 3 →₀ ℕ) 1)
            ((s - Finsupp.single i 1 : Fin 3 →₀ ℕ) 2) := by
  fin_cases i
  all_goals simp only [Fin.zero_eta, Fin.mk_one, Fin.reduceFinMk, Fin.isValue, Finsupp.add_apply, Finsupp.tsub_apply,
    Finsupp.single_apply, Fin.reduceEq, if_true, if_false, zero_add, tsub_zero, add_comm 1 (s _)]
  · exact monoInt_shift0 (s 0) (s 1) (s 2)
  · exact monoInt_shift1 (s 0) (s 1) (s 2)
  · exact monoInt_shift2 (s 0) (s 1) (s 2)

theorem sphereL_div (d : ℕ) (p : P3) (hp : p.IsHomogeneous d) (i : Fin 3) :
    ((d : ℝ) + 2) * sphereL (X i * p) = sphereL (pderiv i p) := by
  have key : ∀ v ∈ p.support, ((d : ℝ) + 2) * sphereL (X i * monomial v (coeff v p))
      = sphereL (pderiv i (monomial v (coeff v p))) := by
    intro v hv
    have hdeg : v 0 + v 1 + v 2 = d := by
      rw [← degree_fin3]
      exact hp (mem_support_iff.mp hv)
    have e : X i * monomial v (coeff v p) = monomial (Finsupp.single i 1 + v) (coeff v p) := by
      rw [monomial_single_add, pow_one]
    rw [e, pderiv_monomial, sphereL_monomial, sphereL_monomial]
    have hs := monoInt_shift i v
    rw [hdeg] at hs
    linear_combination (coeff v p) * hs
  calc ((d : ℝ) + 2) * sphereL (X i * p)
      = ((d : ℝ) + 2) * sphereL (X i * ∑ v ∈ p.support, monomial v (coeff v p)) := by
        rw [support_sum_monomial_coeff]
    _ = ∑ v ∈ p.support, ((d : ℝ) + 2) * sphereL (X i * monomial v (coeff v p)) := by
        rw [Finset.mul_sum, map_sum, Finset.mul_sum]
    _ = ∑ v ∈ p.support, sphereL (pderiv i (monomial v (coeff v p))) := Finset.sum_congr rfl key
    _ = sphereL (pderiv i (∑ v ∈ p.support, monomial v (coeff v p))) := by rw [map_sum, map_sum]
    _ = _ := by rw [support_sum_monomial_coeff]

theorem sphere_orth (m n : ℕ) (hmn : m < n) (h p : P3) (hh : h.IsHomogeneous n) (hlap : lap h = 0)
    (hp : p.IsHomogeneous m) : ∫ u : sphere (0 : E3) 1, evS u p * evS u h ∂σ = 0 := by
  have := orth_abstract sphereL sphereL_div m n hmn h p hh hlap hp
  simpa [sphereL, evS] using this

/-! ### the solid harmonics in factored form are harmonic polynomials -/

/-- (Re, Im) of (x + i y)^mu as polynomials -/
noncomputable def AcAs : ℕ → P3 × P3
  | 0 => (1, 0)
  | mu + 1 => (X 0 * (AcAs mu).1 - X 1 * (AcAs mu).2, X 0 * (AcAs mu).2 + X 1 * (AcAs mu).1)

noncomputable def Ac (mu : ℕ) : P3 := (AcAs mu).1

noncomputable def As (mu : ℕ) : P3 := (AcAs mu).2

theorem Ac_zero : Ac 0 = 1 := rfl

theorem As_zero : As 0 = 0 := rfl

theorem Ac_succ (mu : ℕ) : Ac (mu + 1) = X 0 * Ac mu - X 1 * As mu := rfl

theorem As_succ (mu : ℕ) : As (mu + 1) = X 0 * As mu + X 1 * Ac mu := rfl

/-- Cauchy–Riemann -/
theorem AcAs_CR (mu : ℕ) : pderiv 0 (Ac mu) = pderiv 1 (As mu) ∧ pderiv 1 (Ac mu) = - pderiv 0 (As mu) := by
  induction mu with
  | zero => simp [Ac_zero, As_zero]
  | succ mu ih =>
    obtain ⟨h1, h2⟩ := ih
    have h01 : pderiv 0 (X 1 : P3) = 0 := pderiv_X_of_ne (by decide)
    have h10 : pderiv 1 (X 0 : P3) = 0 := pderiv_X_of_ne (by decide)
    rw [Ac_succ, As_succ]
    simp only [map_sub, map_add, pderiv_mul, pderiv_X_self, h01, h10, h1, h2]
    constructor <;> ring

theorem AcAs_deriv2 (mu : ℕ) : pderiv 2 (Ac mu) = 0 ∧ pderiv 2 (As mu) = 0 := by
  induction mu with
  | zero => simp [Ac_zero, As_zero]
  | succ mu ih =>
    have h0 : (0 : Fin 3) ≠ 2 := by decide
    have h1 : (1 : Fin 3) ≠ 2 := by decide
    rw [Ac_succ, As_succ]
    simp [ih.1, ih.2, pderiv_X_of_ne h0, pderiv_X_of_ne h1]

theorem AcAs_hom (mu : ℕ) : (Ac mu).IsHomogeneous mu ∧ (As mu).IsHomogeneous mu := by
  induction mu with
  | zero => exact ⟨isHomogeneous_one _ _, isHomogeneous_zero _ _ _⟩
  | succ mu ih =>
    rw [Ac_succ, As_succ]
    have hx : ∀ i : Fin 3, (X i : P3).IsHomogeneous 1 := fun i => isHomogeneous_X _ _
    refine ⟨?_, ?_⟩
    · have := ((hx 0).mul ih.1).sub ((hx 1).mul ih.2)
      rwa [Nat.add_comm 1 mu] at this
    · have := ((hx 0).mul ih.2).add ((hx 1).mul ih.1)
      rwa [Nat.add_comm 1 mu] at this

/-- Re and Im of (x + i y)^mu are harmonic: Cauchy–Riemann and the symmetry of second derivatives -/
theorem lap_AcAs (mu : ℕ) : lap (Ac mu) = 0 ∧ lap (As mu) = 0 := by
  obtain ⟨h1, h2⟩ := AcAs_CR mu
  obtain ⟨h5, h6⟩ := AcAs_deriv2 mu
  have h2' : pderiv 0 (As mu) = - pderiv 1 (Ac mu) := by rw [h2, neg_neg]
  unfold lap
  rw [Fin.sum_univ_three, Fin.sum_univ_three, h5, h6, map_zero, add_zero, add_zero]
  constructor
  · rw [h1, h2, map_neg, pderiv_comm 0 1, add_neg_cancel]
  · rw [h2', ← h1, map_neg, pderiv_comm 1 0, neg_add_cancel]

theorem lap_mul (f g : P3) :
    lap (f * g) = lap f * g + 2 * ∑ k : Fin 3, pderiv k f * pderiv k g + f * lap g := by
  unfold lap
  simp only [pderiv_mul, map_add, Fin.sum_univ_three]
  ring

noncomputable def Rsq : P3 := X 0 ^ 2 + X 1 ^ 2 + X 2 ^ 2

theorem Rsq_hom : Rsq.IsHomogeneous 2 := by
  unfold Rsq
  exact (((isHomogeneous_X _ _).pow 2).add ((isHomogeneous_X _ _).pow 2)).add ((isHomogeneous_X _ _).pow 2)

theorem pderiv_Rsq (k : Fin 3) : pderiv k Rsq = 2 * X k := by
  unfold Rsq
  simp only [map_add, pderiv_pow, pderiv_X, Nat.cast_ofNat, Nat.add_one_sub_one, pow_one]
  fin_cases k <;> simp

theorem lap_Rsq : lap Rsq = 6 := by
  unfold lap
  simp only [pderiv_Rsq, pderiv_mul, pderiv_X_self, Fin.sum_univ_three, ← Nat.cast_ofNat (R := P3) (n := 2),
    Derivation.map_natCast]
  ring

theorem lap_Rsq_mul (H : P3) (e : ℕ) (hH : H.IsHomogeneous e) :
    lap (Rsq * H) = (6 + 4 * (e : P3)) * H + Rsq * lap H := by
  rw [lap_mul, lap_Rsq]
  have hE := hH.sum_X_mul_pderiv
  have : ∑ k : Fin 3, pderiv k Rsq * pderiv k H = 2 * ((e : P3) * H) := by
    simp only [pderiv_Rsq, mul_assoc]
    rw [← Finset.mul_sum, hE, nsmul_eq_mul]
  rw [this]
  ring

theorem lap_Rpow_mul (G : P3) (d : ℕ) (hG : G.IsHomogeneous d) (i : ℕ) :
    lap (Rsq ^ i * G) = (2 * (i : P3) * (2 * i + 2 * d + 1)) * (Rsq ^ (i - 1) * G) + Rsq ^ i * lap G := by
  induction i with
  | zero => simp
  | succ i ih =>
    have hH : (Rsq ^ i * G).IsHomogeneous (2 * i + d) := (Rsq_hom.pow i).mul hG
    rw [pow_succ', mul_assoc, lap_Rsq_mul _ _ hH, ih]
    rcases i with _ | i
    · simp only [Nat.cast_zero, mul_zero, zero_mul, zero_add, pow_zero, one_mul, zero_tsub, Nat.cast_one,
        mul_one]
      ring
    · simp only [Nat.add_sub_cancel, pow_succ']
      push_cast
      ring

theorem lap_Zpow_mul (A : P3) (hA2 : pderiv 2 A = 0) (hlap : lap A = 0) (q : ℕ) :
    lap (X 2 ^ q * A) = ((q : P3) * ((q : P3) - 1)) * (X 2 ^ (q - 2) * A) := by
  rw [lap_mul, hlap, mul_zero, add_zero]
  have h0 : (2 : Fin 3) ≠ 0 := by decide
  have h1 : (2 : Fin 3) ≠ 1 := by decide
  have d0 : pderiv 0 (X 2 ^ q : P3) = 0 := by rw [pderiv_pow, pderiv_X_of_ne h0, mul_zero]
  have d1 : pderiv 1 (X 2 ^ q : P3) = 0 := by rw [pderiv_pow, pderiv_X_of_ne h1, mul_zero]
  have d2 : pderiv 2 (X 2 ^ q : P3) = (q : P3) * X 2 ^ (q - 1) := by rw [pderiv_pow, pderiv_X_self, mul_one]
  unfold lap
  rw [Fin.sum_univ_three, Fin.sum_univ_three, d0, d1, d2, hA2]
  simp only [map_zero, pderiv_mul, Derivation.map_natCast, pderiv_pow, pderiv_X_self]
  rcases q with _ | _ | q
  · simp
  · simp
  · simp only [Nat.add_sub_cancel, show q + 1 + 1 - 2 = q by omega]
    push_cast
    ring

theorem lap_sum {ι : Type} (s : Finset ι) (f : ι → P3) : lap (∑ i ∈ s, f i) = ∑ i ∈ s, lap (f i) := by
  unfold lap
  simp only [map_sum]
  exact Finset.sum_comm

theorem lap_block (A : P3) (mu : ℕ) (hA : A.IsHomogeneous mu) (hA2 : pderiv 2 A = 0) (hlap : lap A = 0) (i n : ℕ) :
    lap (Rsq ^ i * (X 2 ^ n * A))
      = C (2 * (i : ℝ) * (2 * i + 2 * (n + mu) + 1)) * (Rsq ^ (i - 1) * (X 2 ^ n * A))
        + C ((n : ℝ) * (n - 1)) * (Rsq ^ i * (X 2 ^ (n - 2) * A)) := by
  have hG : (X 2 ^ n * A : P3).IsHomogeneous (n + mu) := by
    simpa only [one_mul] using ((isHomogeneous_X ℝ (2 : Fin 3)).pow n).mul hA
  rw [lap_Rpow_mul _ _ hG, lap_Zpow_mul A hA2 hlap]
  simp only [map_mul, map_add, map_sub, map_one, map_ofNat, map_natCast, Nat.cast_add]
  ring

/-- the coefficients of the Legendre part: (-1)^i C(lam, i) (2 lam − 2i)! / (lam − mu − 2i)! -/
noncomputable def alpha (lam mu i : ℕ) : ℝ :=
  (lam ! : ℝ) / ((i ! : ℝ) * ((lam - i)! : ℝ)) *
    ((1 - 2 * ((i % 2 : ℕ) : ℝ)) * ((2 * (lam - i))! : ℝ) / ((lam - mu - 2 * i)! : ℝ))

theorem alpha_zero (lam mu : ℕ) : alpha lam mu 0 = ((2 * lam)! : ℝ) / ((lam - mu)! : ℝ) := by
  have : (lam ! : ℝ) ≠ 0 := Nat.cast_ne_zero.mpr (Nat.factorial_ne_zero _)
  simp [alpha, this]

/-- the two-term recurrence that makes the polar sum harmonic: the factors are the coefficients `lap_block` produces, the first
for the term i + 1 (the part that goes down to r^{2i}), the second for the term i (the part that stays at r^{2i}) -/
theorem alpha_rec (lam mu i : ℕ) (h : 2 * (i + 1) ≤ lam - mu) :
    alpha lam mu (i + 1)
        * (2 * ((i + 1 : ℕ) : ℝ) * (2 * ((i + 1 : ℕ) : ℝ) + 2 * (((lam - mu - 2 * (i + 1) : ℕ) : ℝ) + mu) + 1))
      + alpha lam mu i * (((lam - mu - 2 * i : ℕ) : ℝ) * (((lam - mu - 2 * i : ℕ) : ℝ) - 1)) = 0 := by
  -- q: the exponent of z in the term i + 1
  obtain ⟨q, hl⟩ : ∃ q, lam = mu + 2 * i + q + 2 := ⟨lam - mu - 2 * i - 2, by omega⟩
  have e1 : lam - mu - 2 * (i + 1) = q := by
    rw [Nat.sub_sub]
    exact Nat.sub_eq_of_eq_add (hl.trans (by ring))
  have hq : lam - mu - 2 * i = q + 2 := by
    rw [Nat.sub_sub]
    exact Nat.sub_eq_of_eq_add (hl.trans (by ring))
  have e3 : lam - (i + 1) = mu + q + i + 1 := Nat.sub_eq_of_eq_add (hl.trans (by ring))
  have e4 : lam - i = mu + q + i + 1 + 1 := Nat.sub_eq_of_eq_add (hl.trans (by ring))
  have hs : ((((i + 1) % 2 : ℕ) : ℝ)) = 1 - ((i % 2 : ℕ) : ℝ) := by
    rcases Nat.mod_two_eq_zero_or_one i with h0 | h0
    · rw [h0, Nat.succ_mod_two_eq_one_iff.mpr h0, Nat.cast_one, Nat.cast_zero, sub_zero]
    · rw [h0, Nat.succ_mod_two_eq_zero_iff.mpr h0, Nat.cast_one, Nat.cast_zero, sub_self]
  unfold alpha
  rw [e1, hq, e3, e4, hs, Nat.mul_succ 2 (mu + q + i + 1)]
  simp only [Nat.factorial_succ]
  push_cast
  have f1 : ((i ! : ℕ) : ℝ) ≠ 0 := Nat.cast_ne_zero.mpr (Nat.factorial_ne_zero _)
  have f2 : (((mu + q + i + 1) ! : ℕ) : ℝ) ≠ 0 := Nat.cast_ne_zero.mpr (Nat.factorial_ne_zero _)
  have f3 : ((q ! : ℕ) : ℝ) ≠ 0 := Nat.cast_ne_zero.mpr (Nat.factorial_ne_zero _)
  have f4 : ((i : ℝ) + 1) ≠ 0 := Nat.cast_add_one_ne_zero i
  have f5 : ((mu : ℝ) + q + i + 1 + 1) ≠ 0 := by exact_mod_cast Nat.succ_ne_zero (mu + q + i + 1)
  have f6 : ((q : ℝ) + 1) ≠ 0 := Nat.cast_add_one_ne_zero q
  have f7 : ((q : ℝ) + 1 + 1) ≠ 0 := by exact_mod_cast Nat.succ_ne_zero (q + 1)
  have f8 : ((mu : ℝ) + q + i + 1) ≠ 0 := by exact_mod_cast Nat.succ_ne_zero (mu + q + i)
  field_simp
  ring

/-- the solid harmonic in factored form: Σ_i alpha_i r^{2i} z^{lam−mu−2i} · A(x, y) -/
noncomputable def Fpoly (lam mu : ℕ) (A : P3) : P3 :=
  ∑ i ∈ Finset.range ((lam - mu) / 2 + 1), C (alpha lam mu i) * (Rsq ^ i * (X 2 ^ (lam - mu - 2 * i) * A))

theorem Fpoly_hom (lam mu : ℕ) (hmu : mu ≤ lam) (A : P3) (hA : A.IsHomogeneous mu) :
    (Fpoly lam mu A).IsHomogeneous lam := by
  unfold Fpoly
  refine IsHomogeneous.sum _ _ _ fun i hi => ?_
  simp only [Finset.mem_range] at hi
  have h1 : (Rsq ^ i * (X 2 ^ (lam - mu - 2 * i) * A)).IsHomogeneous (2 * i + (1 * (lam - mu - 2 * i) + mu)) :=
    (Rsq_hom.pow i).mul (((isHomogeneous_X _ _).pow _).mul hA)
  rw [show 2 * i + (1 * (lam - mu - 2 * i) + mu) = lam by omega] at h1
  exact h1.C_mul _

theorem Fpoly_lap (lam mu : ℕ) (A : P3) (hA : A.IsHomogeneous mu) (hA2 : pderiv 2 A = 0)
    (hlap : lap A = 0) : lap (Fpoly lam mu A) = 0 := by
  have hterm : ∀ i, lap (C (alpha lam mu i) * (Rsq ^ i * (X 2 ^ (lam - mu - 2 * i) * A)))
      = C (alpha lam mu i * (2 * (i : ℝ) * (2 * i + 2 * (((lam - mu - 2 * i : ℕ) : ℝ) + mu) + 1)))
          * (Rsq ^ (i - 1) * (X 2 ^ (lam - mu - 2 * i) * A))
        + C (alpha lam mu i * (((lam - mu - 2 * i : ℕ) : ℝ) * (((lam - mu - 2 * i : ℕ) : ℝ) - 1)))
          * (Rsq ^ i * (X 2 ^ (lam - mu - 2 * i - 2) * A)) := fun i => by
    rw [lap_C_mul, lap_block A mu hA hA2 hlap]
    simp only [map_mul]
    ring
  unfold Fpoly
  set M := (lam - mu) / 2 with hM
  rw [lap_sum, Finset.sum_congr rfl fun i _ => hterm i, Finset.sum_add_distrib, Finset.sum_range_succ',
    Finset.sum_range_succ]
  -- the i = 0 term of the first sum and the i = M term of the second vanish
  have z2 : ((lam - mu - 2 * M : ℕ) : ℝ) * (((lam - mu - 2 * M : ℕ) : ℝ) - 1) = 0 := by
    rcases (by omega : lam - mu - 2 * M = 0 ∨ lam - mu - 2 * M = 1) with h | h
    · rw [h, Nat.cast_zero, zero_mul]
    · rw [h, Nat.cast_one, sub_self, mul_zero]
  simp only [z2, Nat.cast_zero, mul_zero, zero_mul, map_zero, add_zero]
  rw [← Finset.sum_add_distrib]
  -- what remains cancels term by term
  refine Finset.sum_eq_zero fun i hi => ?_
  simp only [Finset.mem_range] at hi
  rw [show lam - mu - 2 * i - 2 = lam - mu - 2 * (i + 1) by omega, Nat.add_sub_cancel, ← add_mul, ← map_add,
    alpha_rec lam mu i (by omega), map_zero, zero_mul]

/-! ### the model's Cartesian harmonics are evaluations of these polynomials -/

/-- (-1)^(p/2) as the code writes it -/
noncomputable def sg (p : ℕ) : ℝ := 1 - 2 * ((p / 2 % 2 : ℕ) : ℝ)

theorem par_add_two_mul (c a b : ℕ) : par c (a + 2 * b) = par c a := by
  unfold par
  rw [Nat.add_mul_mod_self_left]

theorem I_pow_re_im (p : ℕ) : (Complex.I ^ p).re = sg p * par 0 p ∧ (Complex.I ^ p).im = sg p * par 1 p := by
  induction p using Nat.strong_induction_on with
  | _ p ih =>
  rcases p with _ | _ | p
  · simp [sg, par]
  · simp [sg, par]
  · obtain ⟨h1, h2⟩ := ih p (by omega)
    have e : Complex.I ^ (p + 1 + 1) = - Complex.I ^ p := by
      rw [pow_succ, pow_succ, mul_assoc, Complex.I_mul_I]
      ring
    have hs : sg (p + 1 + 1) = - sg p := by
      unfold sg
      have : (p + 1 + 1) / 2 = p / 2 + 1 := by omega
      rw [this]
      rcases Nat.mod_two_eq_zero_or_one (p / 2) with h0 | h0
      · rw [h0, Nat.succ_mod_two_eq_one_iff.mpr h0]
        norm_num
      · rw [h0, Nat.succ_mod_two_eq_zero_iff.mpr h0]
        norm_num
    have hp : ∀ c, par c (p + 1 + 1) = par c p := fun c => par_add_two_mul c p 1
    rw [e, Complex.neg_re, Complex.neg_im, h1, h2, hs, hp, hp]
    constructor <;> ring

/-- Re / Im (x + i y)^mu, expanded (p is the exponent of x) -/
noncomputable def a2 (mu c : ℕ) (x y : ℝ) : ℝ :=
  ∑ p ∈ Finset.range (mu + 1), (mu.choose p : ℝ) * sg (mu - p) * par c (mu - p) * x ^ p * y ^ (mu - p)

theorem cpow_re_im (mu : ℕ) (x y : ℝ) :
    (((x : ℂ) + y * Complex.I) ^ mu).re = a2 mu 0 x y ∧ (((x : ℂ) + y * Complex.I) ^ mu).im = a2 mu 1 x y := by
  have h : ((x : ℂ) + y * Complex.I) ^ mu
      = ∑ p ∈ Finset.range (mu + 1), (((mu.choose p : ℝ) * x ^ p * y ^ (mu - p) : ℝ) : ℂ) * Complex.I ^ (mu - p) := by
    rw [add_pow]
    refine Finset.sum_congr rfl fun p _ => ?_
    push_cast
    ring
  rw [h]
  constructor
  · rw [Complex.re_sum]
    unfold a2
    refine Finset.sum_congr rfl fun p _ => ?_
    rw [Complex.re_ofReal_mul, (I_pow_re_im _).1]
    ring
  · rw [Complex.im_sum]
    unfold a2
    refine Finset.sum_congr rfl fun p _ => ?_
    rw [Complex.im_ofReal_mul, (I_pow_re_im _).2]
    ring

theorem a2_zero (x y : ℝ) : a2 0 0 x y = 1 ∧ a2 0 1 x y = 0 := by
  rw [← (cpow_re_im 0 x y).1, ← (cpow_re_im 0 x y).2, pow_zero]
  exact ⟨Complex.one_re, Complex.one_im⟩

/-- multiplication by x + i y -/
theorem a2_succ (mu : ℕ) (x y : ℝ) :
    a2 (mu + 1) 0 x y = x * a2 mu 0 x y - y * a2 mu 1 x y ∧ a2 (mu + 1) 1 x y = x * a2 mu 1 x y + y * a2 mu 0 x y := by
  simp only [← (cpow_re_im _ x y).1, ← (cpow_re_im _ x y).2, pow_succ', Complex.mul_re, Complex.mul_im, Complex.add_re,
    Complex.add_im, Complex.ofReal_re, Complex.ofReal_im, Complex.I_re, Complex.I_im, mul_zero, mul_one, sub_zero,
    zero_add, add_zero, and_self]

theorem eval_AcAs (mu : ℕ) (v : Fin 3 → ℝ) :
    eval v (Ac mu) = a2 mu 0 (v 0) (v 1) ∧ eval v (As mu) = a2 mu 1 (v 0) (v 1) := by
  induction mu with
  | zero => simp [Ac_zero, As_zero, a2_zero]
  | succ mu ih =>
    rw [Ac_succ, As_succ, (a2_succ mu _ _).1, (a2_succ mu _ _).2, ← ih.1, ← ih.2]
    simp only [map_sub, map_add, map_mul, eval_X, and_self]

theorem sum_window (ph : ℕ → ℝ) (mu a N : ℕ) (h : a + mu ≤ N) :
    ∑ k ∈ Finset.range (N + 1), (if a ≤ k ∧ k ≤ mu + a then ph (k - a) else 0) = ∑ p ∈ Finset.range (mu + 1), ph p := by
  have hw : (Finset.range (N + 1)).filter (fun k => a ≤ k ∧ k ≤ mu + a) = Finset.Ico a (a + (mu + 1)) := by
    ext k
    simp only [Finset.mem_filter, Finset.mem_range, Finset.mem_Ico]
    omega
  rw [← Finset.sum_filter, hw, Finset.sum_Ico_eq_sum_range, Nat.add_sub_cancel_left]
  simp only [Nat.add_sub_cancel_left]

theorem sum_arith (g : ℕ → ℝ) (mu lam : ℕ) (hmu : mu ≤ lam)
    (hg : ∀ d, d < lam + 1 → ¬ (mu ≤ d ∧ (d - mu) % 2 = 0) → g d = 0) :
    ∑ d ∈ Finset.range (lam + 1), g d = ∑ j ∈ Finset.range ((lam - mu) / 2 + 1), g (mu + 2 * j) := by
  rw [← Finset.sum_image (g := fun j => mu + 2 * j) (f := g) fun a _ b _ (h : mu + 2 * a = mu + 2 * b) => by omega]
  symm
  refine Finset.sum_subset (fun d hd => ?_) fun d hd hnot => hg d (Finset.mem_range.mp hd) fun hc => hnot ?_
  · obtain ⟨j, hj, rfl⟩ := Finset.mem_image.mp hd
    simp only [Finset.mem_range] at hj ⊢
    omega
  · simp only [Finset.mem_range] at hd
    exact Finset.mem_image.mpr ⟨(d - mu) / 2, Finset.mem_range.mpr (by omega), by omega⟩

theorem sum_regroup (f : ℕ → ℕ → ℝ) (mu lam : ℕ) (hmu : mu ≤ lam)
    (hf : ∀ k l, ¬ (mu ≤ k + l ∧ (k + l - mu) % 2 = 0) → f k l = 0) :
    ∑ k ∈ Finset.range (lam + 1), ∑ l ∈ Finset.range (lam - k + 1), f k l
      = ∑ j ∈ Finset.range ((lam - mu) / 2 + 1), ∑ k ∈ Finset.range (mu + 2 * j + 1), f k (mu + 2 * j - k) := by
  have h1 : ∑ k ∈ Finset.range (lam + 1), ∑ l ∈ Finset.range (lam - k + 1), f k l
      = ∑ k ∈ Finset.range (lam + 1), ∑ l ∈ Finset.range (lam + 1 - k), f k l := by
    refine Finset.sum_congr rfl fun k hk => ?_
    simp only [Finset.mem_range] at hk
    rw [show lam - k + 1 = lam + 1 - k by omega]
  rw [h1, ← Finset.sum_range_diag_flip]
  refine sum_arith (fun d => ∑ k ∈ Finset.range (d + 1), f k (d - k)) mu lam hmu ?_
  intro d _ hc
  refine Finset.sum_eq_zero fun k hk => ?_
  simp only [Finset.mem_range] at hk
  apply hf
  rwa [show k + (d - k) = d by omega]

/-- the coefficient of x^k y^(mu+2j−k) in (x² + y²)^j (x + i y)^mu (before taking Re / Im), as `uklm` sums it -/
noncomputable def Bco (mu j k : ℕ) : ℝ :=
  ∑ i ∈ Finset.range (j + 1),
    if 2 * i ≤ k ∧ k ≤ mu + 2 * i then (j.choose i : ℝ) * (mu.choose (k - 2 * i) : ℝ) * sg (mu + 2 * i - k) else 0

theorem two_dim (mu c j : ℕ) (x y : ℝ) :
    (x ^ 2 + y ^ 2) ^ j * a2 mu c x y
      = ∑ k ∈ Finset.range (mu + 2 * j + 1), Bco mu j k * par c (mu + 2 * j - k) * x ^ k * y ^ (mu + 2 * j - k) := by
  rw [add_pow, Finset.sum_mul]
  unfold Bco
  simp only [Finset.sum_mul]
  rw [Finset.sum_comm]
  refine Finset.sum_congr rfl fun i hi => ?_
  obtain ⟨e, rfl⟩ := Nat.exists_eq_add_of_le (Finset.mem_range_succ_iff.mp hi)
  -- the i-th term of (x² + y²)^j times the p-th term of Re / Im (x + i y)^mu lands on k = 2 i + p
  set ph : ℕ → ℝ := fun p => ((i + e).choose i : ℝ)
    * ((mu.choose p : ℝ) * sg (mu - p) * par c (mu - p) * x ^ p * y ^ (mu - p)) * x ^ (2 * i) * y ^ (2 * e) with hph
  have hL : (x ^ 2) ^ i * (y ^ 2) ^ (i + e - i) * ((i + e).choose i : ℝ) * a2 mu c x y
      = ∑ p ∈ Finset.range (mu + 1), ph p := by
    unfold a2
    rw [Finset.mul_sum, Nat.add_sub_cancel_left]
    refine Finset.sum_congr rfl fun p _ => ?_
    simp only [hph, ← pow_mul]
    ring
  rw [hL, ← sum_window ph mu (2 * i) (mu + 2 * (i + e)) (by omega)]
  refine Finset.sum_congr rfl fun k _ => ?_
  by_cases hc : 2 * i ≤ k ∧ k ≤ mu + 2 * i
  · obtain ⟨p, rfl⟩ := Nat.exists_eq_add_of_le hc.1
    have e1 : mu + 2 * (i + e) - (2 * i + p) = mu - p + 2 * e := by omega
    rw [if_pos hc, if_pos hc, e1, par_add_two_mul, Nat.add_sub_cancel_left, Nat.add_comm mu (2 * i), Nat.add_sub_add_left]
    simp only [hph]
    ring
  · rw [if_neg hc, if_neg hc]
    ring

/-- the coefficient of rho^{2j} z^{lam−mu−2j} in Σ_i alpha_i (rho² + z²)^i z^{lam−mu−2i}, as `uklm` sums it -/
noncomputable def Aco (lam mu j : ℕ) : ℝ :=
  ∑ t ∈ Finset.range ((lam - mu) / 2 + 1 - j), alpha lam mu (j + t) * ((j + t).choose j : ℝ)

theorem radial (lam mu : ℕ) (hmu : mu ≤ lam) (r z : ℝ) :
    ∑ i ∈ Finset.range ((lam - mu) / 2 + 1), alpha lam mu i * ((r + z ^ 2) ^ i * z ^ (lam - mu - 2 * i))
      = ∑ j ∈ Finset.range ((lam - mu) / 2 + 1), Aco lam mu j * r ^ j * z ^ (lam - mu - 2 * j) := by
  set M := (lam - mu) / 2 with hM
  have h1 : ∀ i ∈ Finset.range (M + 1), alpha lam mu i * ((r + z ^ 2) ^ i * z ^ (lam - mu - 2 * i))
      = ∑ j ∈ Finset.range (i + 1),
          (fun j t => alpha lam mu (j + t) * ((j + t).choose j : ℝ) * r ^ j * z ^ (lam - mu - 2 * j)) j (i - j) := by
    intro i hi
    simp only [Finset.mem_range] at hi
    rw [add_pow, Finset.sum_mul, Finset.mul_sum]
    refine Finset.sum_congr rfl fun j hj => ?_
    simp only [Finset.mem_range] at hj
    have e1 : j + (i - j) = i := by omega
    have e2 : z ^ (lam - mu - 2 * j) = (z ^ 2) ^ (i - j) * z ^ (lam - mu - 2 * i) := by
      rw [← pow_mul, ← pow_add]
      congr 1
      omega
    simp only [e1, e2]
    ring
  have key := Finset.sum_range_diag_flip (M + 1)
    (fun j t => alpha lam mu (j + t) * ((j + t).choose j : ℝ) * r ^ j * z ^ (lam - mu - 2 * j))
  rw [Finset.sum_congr rfl h1]
  refine key.trans ?_
  refine Finset.sum_congr rfl fun j _ => ?_
  unfold Aco
  rw [Finset.sum_mul, Finset.sum_mul]

theorem calcH1_real (nf lam mu i j : ℕ) (hnf : 2 * lam < nf) (hmu : mu ≤ lam) (hi : 2 * i ≤ lam - mu) (hj : j ≤ i) :
    calcH1 (facTable (α := ℝ) nf) i j lam mu = alpha lam mu i * (i.choose j : ℝ) := by
  unfold calcH1 alpha
  obtain ⟨b1, b2, b3, b4, b5, b6⟩ :
      lam < nf ∧ j < nf ∧ lam - i < nf ∧ i - j < nf ∧ 2 * (lam - i) < nf ∧ lam - mu - 2 * i < nf := by omega
  simp only [facTable_spec nf _ b1, facTable_spec nf _ b2, facTable_spec nf _ b3, facTable_spec nf _ b4,
    facTable_spec nf _ b5, facTable_spec nf _ b6, Nat.cast_choose ℝ hj, Int.cast_sub, Int.cast_mul, Int.cast_one,
    Int.cast_ofNat, Int.cast_natCast]
  field_simp

theorem calcH2_real (nf mu i j k : ℕ) (hj : j < nf) (hmu : mu < nf) (hi : i ≤ j) :
    calcH2 (facTable (α := ℝ) nf) i j k mu
      = if 2 * i ≤ k ∧ k ≤ mu + 2 * i then (j.choose i : ℝ) * (mu.choose (k - 2 * i) : ℝ) * sg (mu + 2 * i - k) else 0 := by
  unfold calcH2
  by_cases hc : 2 * i ≤ k ∧ k ≤ mu + 2 * i
  · obtain ⟨b1, b2, b3, b4, b5⟩ : i < nf ∧ j - i < nf ∧ k - 2 * i < nf ∧ mu - (k - 2 * i) < nf ∧ k - 2 * i ≤ mu := by
      omega
    rw [if_pos ⟨hc.2, hc.1⟩, if_pos hc]
    simp only [facTable_spec nf _ hj, facTable_spec nf _ hmu, facTable_spec nf _ b1, facTable_spec nf _ b2,
      facTable_spec nf _ b3, facTable_spec nf _ b4, Nat.cast_choose ℝ hi, Nat.cast_choose ℝ b5, sg]
    push_cast
    field_simp
  · rw [if_neg (fun h => hc ⟨h.2, h.1⟩), if_neg hc]

/-- the normalisation constant `uklm` puts in front (calcG, and 1/√2 for mu = 0) -/
noncomputable def gnorm (nf lam mu : ℕ) : ℝ :=
  calcG (facTable (α := ℝ) nf) lam mu * (if mu = 0 then 1 / √2 else 1)

theorem uklm_real (nf lam mu j k l c : ℕ) (hnf : 2 * lam < nf) (hkl : k + l = mu + 2 * j) (hj : mu + 2 * j ≤ lam) :
    uklm (facTable (α := ℝ) nf) lam mu k l c = gnorm nf lam mu * Aco lam mu j * Bco mu j k * par (ceff mu c) l := by
  have ej : (k + l - mu) / 2 = j := by rw [hkl, Nat.add_sub_cancel_left, Nat.mul_div_cancel_left j two_pos]
  rw [uklm_eq, if_pos ⟨hkl ▸ Nat.le_add_right mu _, by rw [hkl, Nat.add_sub_cancel_left, Nat.mul_mod_right]⟩, ej]
  have hu1 : ∑ t ∈ Finset.range ((lam - mu) / 2 + 1 - j), calcH1 (facTable (α := ℝ) nf) (j + t) j lam mu = Aco lam mu j :=
    Finset.sum_congr rfl fun t ht => by
      simp only [Finset.mem_range] at ht
      exact calcH1_real nf lam mu (j + t) j hnf (by omega) (by omega) (Nat.le_add_right j t)
  have hu2 : ∑ i ∈ Finset.range (j + 1), calcH2 (facTable (α := ℝ) nf) i j k mu = Bco mu j k :=
    Finset.sum_congr rfl fun i hi => by
      simp only [Finset.mem_range] at hi
      exact calcH2_real nf mu i j k (by omega) (by omega) (by omega)
  rw [hu1, hu2, gnorm]
  ring

theorem ceff_cases (mu c : ℕ) : ceff mu c = 0 ∨ ceff mu c = 1 := by
  unfold ceff
  split_ifs <;> simp

/-- the harmonic polynomial behind the (lam, mu, c) slot of the model's coefficient table -/
noncomputable def Hpoly (nf lam mu c : ℕ) : P3 :=
  C (gnorm nf lam mu) * Fpoly lam mu (if ceff mu c = 0 then Ac mu else As mu)

theorem eval_Fpoly (lam mu : ℕ) (A : P3) (v : Fin 3 → ℝ) :
    eval v (Fpoly lam mu A) = ∑ i ∈ Finset.range ((lam - mu) / 2 + 1),
      alpha lam mu i * (((v 0 ^ 2 + v 1 ^ 2) + v 2 ^ 2) ^ i * v 2 ^ (lam - mu - 2 * i)) * eval v A := by
  unfold Fpoly Rsq
  simp only [map_sum, map_mul, map_pow, map_add, eval_C, eval_X]
  refine Finset.sum_congr rfl fun i _ => ?_
  ring

/-- **the factored form of the model's Cartesian harmonic** as a real function:
S_{lam, mu} = N · (Σ_i α_i r^{2i} z^{lam−mu−2i}) · Re/Im (x + i y)^mu -/
theorem SU_factored (nf lam mu c : ℕ) (hnf : 2 * lam < nf) (hmu : mu ≤ lam) (v : E3) :
    SU (uklm (facTable (α := ℝ) nf)) lam mu c v
      = gnorm nf lam mu
        * ((∑ i ∈ Finset.range ((lam - mu) / 2 + 1),
            alpha lam mu i * ((v 0 ^ 2 + v 1 ^ 2 + v 2 ^ 2) ^ i * v 2 ^ (lam - mu - 2 * i)))
          * a2 mu (ceff mu c) (v 0) (v 1)) := by
  rw [radial lam mu hmu]
  unfold SU
  rw [sum_regroup (fun k l => uklm (facTable (α := ℝ) nf) lam mu k l c * v 0 ^ k * v 1 ^ l * v 2 ^ (lam - k - l)) mu lam hmu]
  · rw [Finset.sum_mul, Finset.mul_sum]
    refine Finset.sum_congr rfl fun j hj => ?_
    simp only [Finset.mem_range] at hj
    have hjl : mu + 2 * j ≤ lam := by omega
    have hterm : ∀ k ∈ Finset.range (mu + 2 * j + 1),
        uklm (facTable (α := ℝ) nf) lam mu k (mu + 2 * j - k) c * v 0 ^ k * v 1 ^ (mu + 2 * j - k)
            * v 2 ^ (lam - k - (mu + 2 * j - k))
          = gnorm nf lam mu * Aco lam mu j * v 2 ^ (lam - mu - 2 * j)
            * (Bco mu j k * par (ceff mu c) (mu + 2 * j - k) * v 0 ^ k * v 1 ^ (mu + 2 * j - k)) := fun k hk => by
      have hkl : k + (mu + 2 * j - k) = mu + 2 * j := Nat.add_sub_of_le (Finset.mem_range_succ_iff.mp hk)
      rw [uklm_real nf lam mu j k _ c hnf hkl hjl, Nat.sub_sub lam k, hkl, ← Nat.sub_sub]
      ring
    rw [Finset.sum_congr rfl hterm, ← Finset.mul_sum, ← two_dim]
    ring
  · intro k l hc
    by_cases hU : uklm (facTable (α := ℝ) nf) lam mu k l c = 0
    · simp only [hU, zero_mul]
    · exact absurd (let ⟨a, b, _⟩ := uklm_ne_zero _ _ _ _ _ _ hU; ⟨a, b⟩) hc

theorem SU_eq_eval (nf lam mu c : ℕ) (hnf : 2 * lam < nf) (hmu : mu ≤ lam) (v : E3) :
    SU (uklm (facTable (α := ℝ) nf)) lam mu c v = eval (fun i => v i) (Hpoly nf lam mu c) := by
  have hA : eval (fun i => v i) (if ceff mu c = 0 then Ac mu else As mu) = a2 mu (ceff mu c) (v 0) (v 1) := by
    rcases ceff_cases mu c with h | h
    · rw [h, if_pos rfl]
      exact (eval_AcAs mu _).1
    · rw [h, if_neg (by norm_num)]
      exact (eval_AcAs mu _).2
  unfold Hpoly
  rw [SU_factored nf lam mu c hnf hmu, map_mul, eval_C, eval_Fpoly, hA, ← Finset.sum_mul]

theorem Hpoly_hom (nf lam mu c : ℕ) (hmu : mu ≤ lam) : (Hpoly nf lam mu c).IsHomogeneous lam := by
  unfold Hpoly
  have hA : (if ceff mu c = 0 then Ac mu else As mu).IsHomogeneous mu := by
    split_ifs
    · exact (AcAs_hom mu).1
    · exact (AcAs_hom mu).2
  exact (Fpoly_hom lam mu hmu _ hA).C_mul _

theorem Hpoly_lap (nf lam mu c : ℕ) : lap (Hpoly nf lam mu c) = 0 := by
  unfold Hpoly
  rw [lap_C_mul]
  split_ifs
  · rw [Fpoly_lap lam mu _ (AcAs_hom mu).1 (AcAs_deriv2 mu).1 (lap_AcAs mu).1, mul_zero]
  · rw [Fpoly_lap lam mu _ (AcAs_hom mu).2 (AcAs_deriv2 mu).2 (lap_AcAs mu).2, mul_zero]

theorem SU_orth (nf lam mu c : ℕ) (hnf : 2 * lam < nf) (a b d : ℕ) (h : a + b + d < lam) :
    ∫ u : sphere (0 : E3) 1, (u.1 0) ^ a * (u.1 1) ^ b * (u.1 2) ^ d
      * SU (uklm (facTable (α := ℝ) nf)) lam mu c u.1 ∂σ = 0 := by
  by_cases hmu : mu ≤ lam
  · have hm : (monomial (Finsupp.single (0 : Fin 3) a + Finsupp.single 1 b + Finsupp.single 2 d) (1 : ℝ)).IsHomogeneous
        (a + b + d) := by
      apply isHomogeneous_monomial
      simp only [map_add, Finsupp.degree_single]
    have := sphere_orth (a + b + d) lam h (Hpoly nf lam mu c) _ (Hpoly_hom nf lam mu c hmu) (Hpoly_lap nf lam mu c) hm
    rw [← this]
    refine integral_congr_ae (.of_forall fun u => ?_)
    beta_reduce
    rw [evS_monomial, SU_eq_eval nf lam mu c hnf hmu]
    simp [evS, mono]
  · simp only [SU_eq_zero_of_lt _ lam mu c (by omega), mul_zero, integral_zero]

theorem Sidx_orth (nf lam idx : ℕ) (hnf : 2 * lam < nf) (a b d : ℕ) (h : a + b + d < lam) :
    ∫ u : sphere (0 : E3) 1, (u.1 0) ^ a * (u.1 1) ^ b * (u.1 2) ^ d * Sidx (facTable (α := ℝ) nf) lam idx u.1 ∂σ = 0 :=
  SU_orth nf lam _ _ hnf a b d h

/-- **every entry of the type-1 table of the model (written or not) is the sphere integral of monomial × S_{lam, idx − lam}** -/
theorem wEntry_model_all (nf maxLam k l m lam idx : ℕ) (hnf : 2 * maxLam < nf) (h1 : lam ≤ maxLam) :
    wEntry (uklm (facTable (α := ℝ) nf)) (pijk (α := ℝ)) maxLam k l m lam idx
      = ∫ u : sphere (0 : E3) 1, (u.1 0) ^ k * (u.1 1) ^ l * (u.1 2) ^ m * Sidx (facTable (α := ℝ) nf) lam idx u.1 ∂σ :=
  wEntry_uklm_core _ maxLam k l m lam idx h1 fun hlt => Sidx_orth nf lam idx (by omega) k l m hlt

/-- **one `makeOmega` iteration on the model's own tables** accumulates the sphere integral of
monomial × S_{lam, ±mu} × S_{rho, sig − rho} -/
theorem omegaIter_model_all (nf maxLam k l m rho sig lam mu : ℕ) (minus : Bool) (hnf : 2 * maxLam < nf)
    (h1 : rho ≤ maxLam) :
    omegaIter (uklm (facTable (α := ℝ) nf)) (wEntry (uklm (facTable (α := ℝ) nf)) (pijk (α := ℝ)) maxLam)
        k l m rho sig lam mu minus
      = ∫ u : sphere (0 : E3) 1, (u.1 0) ^ k * (u.1 1) ^ l * (u.1 2) ^ m
          * SU (uklm (facTable (α := ℝ) nf)) lam mu (if minus = true ∧ mu ≠ 0 then 1 else 0) u.1
          * Sidx (facTable (α := ℝ) nf) rho sig u.1 ∂σ :=
  omegaIter_model_core _ maxLam k l m rho sig lam mu minus h1
    fun hlt a b c habc => Sidx_orth nf rho sig (by omega) a b c (by omega)

/-- **every entry of the type-2 table the model stores is the sphere integral of
monomial × S_{a, ia − a} × S_{b, ib − b}** for the model's own harmonic polynomials -/
theorem omegaEntry_model_all (nf maxLam k l m a ia b ib : ℕ) (hnf : 2 * maxLam < nf) (ha : a ≤ maxLam)
    (hb : b ≤ maxLam) :
    omegaEntry (uklm (facTable (α := ℝ) nf)) (wEntry (uklm (facTable (α := ℝ) nf)) (pijk (α := ℝ)) maxLam)
        k l m a ia b ib
      = ∫ u : sphere (0 : E3) 1, (u.1 0) ^ k * (u.1 1) ^ l * (u.1 2) ^ m
          * Sidx (facTable (α := ℝ) nf) a ia u.1 * Sidx (facTable (α := ℝ) nf) b ib u.1 ∂σ :=
  omegaEntry_model_core _ maxLam k l m a ia b ib ha hb
    (fun hlt x y z hxyz => Sidx_orth nf a ia (by omega) x y z (by omega))
    (fun hlt x y z hxyz => Sidx_orth nf b ib (by omega) x y z (by omega))

/-- an entry `makeW` does not write has a vanishing sphere integral (by parity when lam ≤ k+l+m, by harmonicity when
k+l+m < lam) -/
theorem unwritten_integral_zero_all (nf maxLam k l m lam idx : ℕ) (hnf : 2 * maxLam < nf) (h1 : lam ≤ maxLam)
    (h : wWritten maxLam k l m lam idx = none) :
    ∫ u : sphere (0 : E3) 1, (u.1 0) ^ k * (u.1 1) ^ l * (u.1 2) ^ m * Sidx (facTable (α := ℝ) nf) lam idx u.1 ∂σ = 0 := by
  rw [← wEntry_model_all nf maxLam k l m lam idx hnf h1]
  exact AngularLemmas.wEntry_of_none _ _ _ _ _ _ _ _ h

end Ecpint.C13e
