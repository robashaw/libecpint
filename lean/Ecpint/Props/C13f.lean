/- C13 (part f) — the model's harmonics of order ≤ 2 are the classical real spherical harmonics, and they are orthonormal
   on the sphere.  Each is an instance of the factored form (`C13e.SU_factored`): a constant (`gnorm`, brought under one
   square root), the polar sum and Re/Im (x + iy)^mu, evaluated one by one.  Orthogonality needs no computation except
   for one pair: harmonics of different degree are orthogonal by harmonicity (all degrees), harmonics of equal degree in
   different parity classes by the selection rules (all degrees). -/
import Ecpint.Props.C13e

namespace Ecpint.C13d
open MeasureTheory Metric Real
open Ecpint.Angular Ecpint.C13c Ecpint.C13e Ecpint.C08b
open scoped Nat

/-- the harmonic stored at index idx ≤ 2 lam in factored form (mu and c: its |mu| and type) -/
theorem Sidx_factored (nf lam idx mu c : ℕ) (hnf : 2 * lam < nf) (hmu : mu = muOf lam idx) (hc : c = cOf lam idx)
    (hidx : idx ≤ 2 * lam) (v : E3) :
    Sidx (facTable (α := ℝ) nf) lam idx v
      = gnorm nf lam mu
        * ((∑ i ∈ Finset.range ((lam - mu) / 2 + 1),
            alpha lam mu i * ((v 0 ^ 2 + v 1 ^ 2 + v 2 ^ 2) ^ i * v 2 ^ (lam - mu - 2 * i)))
          * a2 mu c (v 0) (v 1)) := by
  subst hmu hc
  rcases muOf_cOf_cases lam idx with ⟨hge, e1, e2⟩ | ⟨hlt, e1, e2⟩
  · rw [Sidx_def, SU_factored nf lam _ _ hnf (by omega) v, ceff, e2, if_pos (Or.inr rfl)]
  · rw [Sidx_def, SU_factored nf lam _ _ hnf (by omega) v, ceff, e2, if_neg (by omega)]

/-! the polar sums Σ_i α_i r^i z^(lam−mu−2i) (r stands for x² + y² + z²) and Re / Im (x + iy)^mu, for lam ≤ 2 -/

theorem polar_0_0 (r z : ℝ) : ∑ i ∈ Finset.range ((0 - 0) / 2 + 1), alpha 0 0 i * (r ^ i * z ^ (0 - 0 - 2 * i)) = 1 := by
  rw [Finset.sum_range_one, alpha_zero]
  norm_num [Nat.factorial]

theorem polar_1_0 (r z : ℝ) : ∑ i ∈ Finset.range ((1 - 0) / 2 + 1), alpha 1 0 i * (r ^ i * z ^ (1 - 0 - 2 * i)) = 2 * z := by
  rw [Finset.sum_range_one, alpha_zero]
  norm_num [Nat.factorial]

theorem polar_1_1 (r z : ℝ) : ∑ i ∈ Finset.range ((1 - 1) / 2 + 1), alpha 1 1 i * (r ^ i * z ^ (1 - 1 - 2 * i)) = 2 := by
  rw [Finset.sum_range_one, alpha_zero]
  norm_num [Nat.factorial]

theorem polar_2_0 (r z : ℝ) :
    ∑ i ∈ Finset.range ((2 - 0) / 2 + 1), alpha 2 0 i * (r ^ i * z ^ (2 - 0 - 2 * i)) = 12 * z ^ 2 - 4 * r := by
  have h1 : alpha 2 0 1 = -4 := by norm_num [alpha, Nat.factorial]
  rw [Finset.sum_range_succ, Finset.sum_range_one, alpha_zero, h1]
  norm_num [Nat.factorial]
  ring

theorem polar_2_1 (r z : ℝ) : ∑ i ∈ Finset.range ((2 - 1) / 2 + 1), alpha 2 1 i * (r ^ i * z ^ (2 - 1 - 2 * i)) = 24 * z := by
  rw [Finset.sum_range_one, alpha_zero]
  norm_num [Nat.factorial]

theorem polar_2_2 (r z : ℝ) : ∑ i ∈ Finset.range ((2 - 2) / 2 + 1), alpha 2 2 i * (r ^ i * z ^ (2 - 2 - 2 * i)) = 24 := by
  rw [Finset.sum_range_one, alpha_zero]
  norm_num [Nat.factorial]

theorem a2_1_0 (x y : ℝ) : a2 1 0 x y = x := by
  rw [(a2_succ 0 x y).1, (a2_zero x y).1, (a2_zero x y).2, mul_one, mul_zero, sub_zero]

theorem a2_1_1 (x y : ℝ) : a2 1 1 x y = y := by
  rw [(a2_succ 0 x y).2, (a2_zero x y).1, (a2_zero x y).2, mul_one, mul_zero, zero_add]

theorem a2_2_0 (x y : ℝ) : a2 2 0 x y = x ^ 2 - y ^ 2 := by
  rw [(a2_succ 1 x y).1, a2_1_0, a2_1_1]
  ring

theorem a2_2_1 (x y : ℝ) : a2 2 1 x y = 2 * x * y := by
  rw [(a2_succ 1 x y).2, a2_1_0, a2_1_1]
  ring

theorem mul_sqrt_eq {c a b : ℝ} (hc : 0 ≤ c) (h : c ^ 2 * a = b) : c * √a = √b := by
  rw [← h, Real.sqrt_mul (sq_nonneg c), Real.sqrt_sq hc]

/-- the normalisation constant of `uklm` under one square root (`FAST_POW[lam](2)` is 2^lam up to lam = 20 only) -/
theorem gnorm_eq (nf lam mu : ℕ) (h : lam + mu < nf) (hp : Gen.fastPow lam (2 : ℝ) = 2 ^ lam) :
    gnorm nf lam mu = √((2 * (lam : ℝ) + 1) * ((lam - mu)! : ℝ)
      / ((2 ^ lam * (lam ! : ℝ)) ^ 2 * (2 * π * ((lam + mu)! : ℝ)) * (if mu = 0 then 2 else 1))) := by
  unfold gnorm calcG
  simp only [facTable_spec nf lam (by omega), facTable_spec nf (lam - mu) (by omega),
    facTable_spec nf (lam + mu) (by omega), flt_sqrt, flt_pi, Nat.cast_ofNat, hp]
  have hc : (0 : ℝ) ≤ 1 / (2 ^ lam * (lam ! : ℝ)) := by positivity
  split_ifs with h0
  · rw [one_div (√2), ← Real.sqrt_inv, mul_assoc, ← Real.sqrt_mul (by positivity)]
    refine mul_sqrt_eq hc ?_
    ring
  · rw [mul_one, mul_one]
    refine mul_sqrt_eq hc ?_
    ring

/-- K · N_{lam,mu} = √b, from K² · N² = b, for lam ≤ 2 -/
theorem mul_gnorm_eq (n lam mu : ℕ) (K b : ℝ) (h : lam + mu < n) (hl : lam ≤ 2) (hK : 0 ≤ K)
    (hb : K ^ 2 * ((2 * (lam : ℝ) + 1) * ((lam - mu)! : ℝ)
      / ((2 ^ lam * (lam ! : ℝ)) ^ 2 * (2 * π * ((lam + mu)! : ℝ)) * (if mu = 0 then 2 else 1))) = b) :
    K * gnorm n lam mu = √b := by
  have hp : Gen.fastPow lam (2 : ℝ) = 2 ^ lam := by
    interval_cases lam <;> simp [Gen.fastPow, Gen.pow_0, Gen.pow_1, Gen.pow_2, sq]
  rw [gnorm_eq n lam mu h hp]
  exact mul_sqrt_eq hK hb

theorem gnorm_0_0 (n : ℕ) (hn : 0 < n) : 1 * gnorm n 0 0 = √(1 / (4 * π)) := by
  refine mul_gnorm_eq n 0 0 _ _ hn (by norm_num) (by norm_num) ?_
  simp [Nat.factorial]
  ring

theorem gnorm_1_0 (n : ℕ) (hn : 1 < n) : 2 * gnorm n 1 0 = √(3 / (4 * π)) := by
  refine mul_gnorm_eq n 1 0 _ _ hn (by norm_num) (by norm_num) ?_
  simp [Nat.factorial]
  ring

theorem gnorm_1_1 (n : ℕ) (hn : 2 < n) : 2 * gnorm n 1 1 = √(3 / (4 * π)) := by
  refine mul_gnorm_eq n 1 1 _ _ hn (by norm_num) (by norm_num) ?_
  simp [Nat.factorial]
  ring

theorem gnorm_2_0 (n : ℕ) (hn : 2 < n) : 4 * gnorm n 2 0 = √(5 / (16 * π)) := by
  refine mul_gnorm_eq n 2 0 _ _ hn (by norm_num) (by norm_num) ?_
  simp [Nat.factorial]
  ring

theorem gnorm_2_1 (n : ℕ) (hn : 3 < n) : 24 * gnorm n 2 1 = √(15 / (4 * π)) := by
  refine mul_gnorm_eq n 2 1 _ _ hn (by norm_num) (by norm_num) ?_
  simp [Nat.factorial]
  ring

theorem gnorm_2_2 (n : ℕ) (hn : 4 < n) : 24 * gnorm n 2 2 = √(15 / (16 * π)) := by
  refine mul_gnorm_eq n 2 2 _ _ hn (by norm_num) (by norm_num) ?_
  simp [Nat.factorial]
  ring

theorem Sidx_0_0 (n : ℕ) (hn : 1 ≤ n) (v : E3) : Sidx (facTable (α := ℝ) n) 0 0 v = 1 / √(4 * π) := by
  rw [Sidx_factored n 0 0 0 0 (by omega) rfl rfl (by norm_num), polar_0_0, (a2_zero _ _).1, mul_one, mul_one,
    ← one_mul (gnorm n 0 0), gnorm_0_0 n (by omega), Real.sqrt_div zero_le_one, Real.sqrt_one]

theorem Sidx_1_0 (n : ℕ) (hn : 3 ≤ n) (v : E3) : Sidx (facTable (α := ℝ) n) 1 0 v = √(3 / (4 * π)) * v 1 := by
  rw [Sidx_factored n 1 0 1 1 (by omega) rfl rfl (by norm_num), polar_1_1, a2_1_1, ← gnorm_1_1 n (by omega)]
  ring

theorem Sidx_1_1 (n : ℕ) (hn : 3 ≤ n) (v : E3) : Sidx (facTable (α := ℝ) n) 1 1 v = √(3 / (4 * π)) * v 2 := by
  rw [Sidx_factored n 1 1 0 0 (by omega) rfl rfl (by norm_num), polar_1_0, (a2_zero _ _).1, ← gnorm_1_0 n (by omega)]
  ring

theorem Sidx_1_2 (n : ℕ) (hn : 3 ≤ n) (v : E3) : Sidx (facTable (α := ℝ) n) 1 2 v = √(3 / (4 * π)) * v 0 := by
  rw [Sidx_factored n 1 2 1 0 (by omega) rfl rfl (by norm_num), polar_1_1, a2_1_0, ← gnorm_1_1 n (by omega)]
  ring

theorem Sidx_2_0 (n : ℕ) (hn : 5 ≤ n) (v : E3) : Sidx (facTable (α := ℝ) n) 2 0 v = √(15 / (4 * π)) * (v 0 * v 1) := by
  have h2 : 2 * √(15 / (16 * π)) = √(15 / (4 * π)) := by
    refine mul_sqrt_eq (by norm_num) ?_
    field_simp
    ring
  rw [Sidx_factored n 2 0 2 1 (by omega) rfl rfl (by norm_num), polar_2_2, a2_2_1, ← h2, ← gnorm_2_2 n (by omega)]
  ring

theorem Sidx_2_1 (n : ℕ) (hn : 5 ≤ n) (v : E3) : Sidx (facTable (α := ℝ) n) 2 1 v = √(15 / (4 * π)) * (v 1 * v 2) := by
  rw [Sidx_factored n 2 1 1 1 (by omega) rfl rfl (by norm_num), polar_2_1, a2_1_1, ← gnorm_2_1 n (by omega)]
  ring

theorem Sidx_2_2 (n : ℕ) (hn : 5 ≤ n) (v : E3) : Sidx (facTable (α := ℝ) n) 2 2 v
    = √(5 / (16 * π)) * (2 * v 2 ^ 2 - v 0 ^ 2 - v 1 ^ 2) := by
  rw [Sidx_factored n 2 2 0 0 (by omega) rfl rfl (by norm_num), polar_2_0, (a2_zero _ _).1, ← gnorm_2_0 n (by omega)]
  ring

theorem Sidx_2_3 (n : ℕ) (hn : 5 ≤ n) (v : E3) : Sidx (facTable (α := ℝ) n) 2 3 v = √(15 / (4 * π)) * (v 0 * v 2) := by
  rw [Sidx_factored n 2 3 1 0 (by omega) rfl rfl (by norm_num), polar_2_1, a2_1_0, ← gnorm_2_1 n (by omega)]
  ring

theorem Sidx_2_4 (n : ℕ) (hn : 5 ≤ n) (v : E3) : Sidx (facTable (α := ℝ) n) 2 4 v
    = √(15 / (16 * π)) * (v 0 ^ 2 - v 1 ^ 2) := by
  rw [Sidx_factored n 2 4 2 0 (by omega) rfl rfl (by norm_num), polar_2_2, a2_2_0, ← gnorm_2_2 n (by omega)]
  ring

/-- **harmonics of different degree are orthogonal**: the one of lower degree is a sum of monomials of that degree -/
theorem Sidx_orth_of_lt (nf a ia b ib : ℕ) (hnf : 2 * b < nf) (hab : a < b) :
    ∫ u : sphere (0 : E3) 1, Sidx (facTable (α := ℝ) nf) a ia u.1 * Sidx (facTable (α := ℝ) nf) b ib u.1 ∂σ = 0 := by
  have h := integral_mono_SU_mul (uklm (facTable (α := ℝ) nf))
    (fun u : sphere (0 : E3) 1 => Sidx (facTable (α := ℝ) nf) b ib u.1)
    (integrable_of_continuous (continuous_Sidx _ b ib)) 0 0 0 a (muOf a ia) (cOf a ia)
  simp only [pow_zero, one_mul, zero_add, ← Sidx_def] at h
  rw [h]
  refine Finset.sum_eq_zero fun i hi => Finset.sum_eq_zero fun j hj => ?_
  simp only [Finset.mem_range] at hi hj
  rw [Sidx_orth nf b ib hnf i j (a - i - j) (by omega), mul_zero]

theorem Sidx_orth_of_parity (fac : Array ℝ) (q a ia b ib : ℕ) (hq : (parR q a ia + parR q b ib) % 2 = 1) :
    ∫ u : sphere (0 : E3) 1, Sidx fac a ia u.1 * Sidx fac b ib u.1 ∂σ = 0 := by
  have h0 : ecomp q (0, 0, 0) = 0 := by
    unfold ecomp
    split_ifs <;> rfl
  have := mono_Sidx_Sidx_integral_zero fac q 0 0 0 a ia b ib (by omega)
  simpa only [pow_zero, one_mul] using this

/-- integral of an explicit polynomial, given as a list of (coefficient, exponents) -/
theorem integral_polyList (L : List (ℝ × ℕ × ℕ × ℕ)) :
    ∫ u : sphere (0 : E3) 1, (L.map fun t => t.1 * mono t.2.1 t.2.2.1 t.2.2.2 u.1).sum ∂σ
      = (L.map fun t => t.1 * monoInt t.2.1 t.2.2.1 t.2.2.2).sum := by
  induction L with
  | nil => simp
  | cons t L ih =>
    simp only [List.map_cons, List.sum_cons]
    rw [integral_add, ih, integral_const_mul]
    · rfl
    · exact integrable_of_continuous ((continuous_mono _ _ _).const_mul _)
    · exact integrable_of_continuous (continuous_list_sum _ fun t _ => (continuous_mono _ _ _).const_mul _)

/-- the integral of two harmonics given explicitly as √c · p and √c' · p', the product p · p' as a list of
(coefficient, exponents) -/
theorem integral_Sidx_mul_Sidx {fac : Array ℝ} {a ia b ib : ℕ} {c c' : ℝ} {p p' : E3 → ℝ}
    (h : ∀ v, Sidx fac a ia v = √c * p v) (h' : ∀ v, Sidx fac b ib v = √c' * p' v) (L : List (ℝ × ℕ × ℕ × ℕ))
    (hL : ∀ v, p v * p' v = (L.map fun t => t.1 * mono t.2.1 t.2.2.1 t.2.2.2 v).sum) :
    ∫ u : sphere (0 : E3) 1, Sidx fac a ia u.1 * Sidx fac b ib u.1 ∂σ
      = √c * √c' * (L.map fun t => t.1 * monoInt t.2.1 t.2.2.1 t.2.2.2).sum := by
  rw [← integral_polyList, ← integral_const_mul]
  refine integral_congr_ae (.of_forall fun u => ?_)
  beta_reduce
  rw [h, h', ← hL]
  ring

/-- the nine norms: ∫ (√c · p)² = c ∫ p², p² monomial by monomial -/
theorem norm_low (n : ℕ) (hn : 5 ≤ n) (a ia : ℕ) (ha : a ≤ 2) (hia : ia ≤ 2 * a) :
    ∫ u : sphere (0 : E3) 1, Sidx (facTable (α := ℝ) n) a ia u.1 * Sidx (facTable (α := ℝ) n) a ia u.1 ∂σ = 1 := by
  have h3 : 3 ≤ n := by omega
  interval_cases a <;> interval_cases ia
  · simp only [Sidx_0_0 n (by omega), integral_const, smul_eq_mul, sphere_total_mass]
    rw [div_mul_div_comm, Real.mul_self_sqrt (by positivity)]
    field_simp
  · rw [integral_Sidx_mul_Sidx (Sidx_1_0 n h3) (Sidx_1_0 n h3) [(1, 0, 2, 0)] (fun v => by
        simp [mono]
        ring), Real.mul_self_sqrt (by positivity)]
    simp only [List.map_cons, List.map_nil, List.sum_cons, List.sum_nil, monoInt_closed]
    norm_num [Nat.doubleFactorial]
  · rw [integral_Sidx_mul_Sidx (Sidx_1_1 n h3) (Sidx_1_1 n h3) [(1, 0, 0, 2)] (fun v => by
        simp [mono]
        ring), Real.mul_self_sqrt (by positivity)]
    simp only [List.map_cons, List.map_nil, List.sum_cons, List.sum_nil, monoInt_closed]
    norm_num [Nat.doubleFactorial]
  · rw [integral_Sidx_mul_Sidx (Sidx_1_2 n h3) (Sidx_1_2 n h3) [(1, 2, 0, 0)] (fun v => by
        simp [mono]
        ring), Real.mul_self_sqrt (by positivity)]
    simp only [List.map_cons, List.map_nil, List.sum_cons, List.sum_nil, monoInt_closed]
    norm_num [Nat.doubleFactorial]
  · rw [integral_Sidx_mul_Sidx (Sidx_2_0 n hn) (Sidx_2_0 n hn) [(1, 2, 2, 0)] (fun v => by
        simp [mono]
        ring), Real.mul_self_sqrt (by positivity)]
    simp only [List.map_cons, List.map_nil, List.sum_cons, List.sum_nil, monoInt_closed]
    norm_num [Nat.doubleFactorial]
  · rw [integral_Sidx_mul_Sidx (Sidx_2_1 n hn) (Sidx_2_1 n hn) [(1, 0, 2, 2)] (fun v => by
        simp [mono]
        ring), Real.mul_self_sqrt (by positivity)]
    simp only [List.map_cons, List.map_nil, List.sum_cons, List.sum_nil, monoInt_closed]
    norm_num [Nat.doubleFactorial]
  · rw [integral_Sidx_mul_Sidx (Sidx_2_2 n hn) (Sidx_2_2 n hn)
        [(4, 0, 0, 4), (-4, 2, 0, 2), (-4, 0, 2, 2), (1, 4, 0, 0), (2, 2, 2, 0), (1, 0, 4, 0)] (fun v => by
        simp [mono]
        ring), Real.mul_self_sqrt (by positivity)]
    simp only [List.map_cons, List.map_nil, List.sum_cons, List.sum_nil, monoInt_closed]
    norm_num [Nat.doubleFactorial]
    field_simp
    norm_num
  · rw [integral_Sidx_mul_Sidx (Sidx_2_3 n hn) (Sidx_2_3 n hn) [(1, 2, 0, 2)] (fun v => by
        simp [mono]
        ring), Real.mul_self_sqrt (by positivity)]
    simp only [List.map_cons, List.map_nil, List.sum_cons, List.sum_nil, monoInt_closed]
    norm_num [Nat.doubleFactorial]
  · rw [integral_Sidx_mul_Sidx (Sidx_2_4 n hn) (Sidx_2_4 n hn) [(1, 4, 0, 0), (-2, 2, 2, 0), (1, 0, 4, 0)] (fun v => by
        simp [mono]
        ring), Real.mul_self_sqrt (by positivity)]
    simp only [List.map_cons, List.map_nil, List.sum_cons, List.sum_nil, monoInt_closed]
    norm_num [Nat.doubleFactorial]
    field_simp
    norm_num

/-- S_{2,0} and S_{2,2} lie in the same parity class: here the integral is computed -/
theorem orth_2_2_2_4 (n : ℕ) (hn : 5 ≤ n) :
    ∫ u : sphere (0 : E3) 1, Sidx (facTable (α := ℝ) n) 2 2 u.1 * Sidx (facTable (α := ℝ) n) 2 4 u.1 ∂σ = 0 := by
  rw [integral_Sidx_mul_Sidx (Sidx_2_2 n hn) (Sidx_2_4 n hn) [(2, 2, 0, 2), (-2, 0, 2, 2), (-1, 4, 0, 0), (1, 0, 4, 0)]
    (fun v => by
      simp [mono]
      ring)]
  simp only [List.map_cons, List.map_nil, List.sum_cons, List.sum_nil, monoInt_closed]
  norm_num [Nat.doubleFactorial]

/-- among the nine harmonics of order ≤ 2, parity separates every pair of equal degree except S_{2,0}, S_{2,2} -/
theorem low_same_class (a ia ib : ℕ) (ha : a ≤ 2) (hia : ia ≤ 2 * a) (hib : ib ≤ 2 * a) (hne : ia ≠ ib)
    (hp : ¬ ∃ q < 3, (parR q a ia + parR q a ib) % 2 = 1) : a = 2 ∧ (ia = 2 ∧ ib = 4 ∨ ia = 4 ∧ ib = 2) := by
  interval_cases a <;> interval_cases ia <;> interval_cases ib <;> revert hne hp <;> decide

theorem Sidx_mul_comm (fac : Array ℝ) (a ia b ib : ℕ) :
    ∫ u : sphere (0 : E3) 1, Sidx fac a ia u.1 * Sidx fac b ib u.1 ∂σ
      = ∫ u : sphere (0 : E3) 1, Sidx fac b ib u.1 * Sidx fac a ia u.1 ∂σ := by
  simp only [mul_comm]

/-- **the model's harmonic polynomials of order ≤ 2 are orthonormal on the sphere** -/
theorem Sidx_orthonormal (n : ℕ) (hn : 5 ≤ n) (a ia b ib : ℕ) (ha : a ≤ 2) (hb : b ≤ 2) (hia : ia ≤ 2 * a)
    (hib : ib ≤ 2 * b) :
    ∫ u : sphere (0 : E3) 1, Sidx (facTable (α := ℝ) n) a ia u.1 * Sidx (facTable (α := ℝ) n) b ib u.1 ∂σ
      = if a = b ∧ ia = ib then 1 else 0 := by
  rcases lt_trichotomy a b with hab | rfl | hab
  · rw [if_neg (by omega)]
    exact Sidx_orth_of_lt n a ia b ib (by omega) hab
  · by_cases hi : ia = ib
    · subst hi
      rw [if_pos ⟨rfl, rfl⟩]
      exact norm_low n hn a ia ha hia
    · rw [if_neg (fun h => hi h.2)]
      by_cases hp : ∃ q < 3, (parR q a ia + parR q a ib) % 2 = 1
      · obtain ⟨q, -, hq⟩ := hp
        exact Sidx_orth_of_parity _ q a ia a ib hq
      · obtain ⟨rfl, ⟨rfl, rfl⟩ | ⟨rfl, rfl⟩⟩ := low_same_class a ia ib ha hia hib hi hp
        · exact orth_2_2_2_4 n hn
        · rw [Sidx_mul_comm]
          exact orth_2_2_2_4 n hn
  · rw [if_neg (by omega), Sidx_mul_comm]
    exact Sidx_orth_of_lt n b ib a ia (by omega) hab

end Ecpint.C13d
