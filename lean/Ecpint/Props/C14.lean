/-
C14 — the scaled modified spherical Bessel function K_l(z) = e^{-z} i_l(z): structure of the evaluators.

Model: Ecpint/Model/Bessel.lean (agrees bit for bit with bessel.cpp at Float, see checks/c14.py).  It reads
`TAYLOR_CUT` and `MAX_DFAC` from Gen/Constants.lean (regenerated every run); the threshold of the small-argument
branch and the table size are parameters, for which the statements about the shipped values put in
`Gen.SMALL_num / Gen.SMALL_den` (over ℝ: `C14f.SMALL`) and `Gen.BESSEL_N`.
Proved: the regimes partition the arguments; the table row is in range and the Taylor step is at most half a
grid spacing; the two evaluators compute the SAME thing in the large-argument and in the table regime and
known closed forms in the small-argument regime; both large-argument loops are the asymptotic polynomial; the
derivative recurrence has the coefficients of the Bessel recurrence; the Taylor remainder budget holds for the
shipped constants.
Not in this file: that series/recurrence/asymptotic form ARE e^{-z} i_l(z) and how close they come to it; that is
C14b–f, where the function is defined over ℝ by the power series (Mathlib has no Bessel functions).  The derivative
bound 2^(T+1)/(T+2) that `taylor_budget` assumes is not proved; C14e proves and uses 2^(T+1) (`shipped_budget`).
Accuracy in doubles is the correspondence + oracle run of the check.
-/
import Ecpint.Lemmas.Bessel
import Ecpint.Lemmas.FoldSumFinset
import Mathlib.Tactic.NormNum
import Mathlib.Algebra.Order.Floor.Semiring
import Mathlib.Data.Nat.Factorial.DoubleFactorial
import Mathlib.Algebra.Order.Field.Basic

namespace Ecpint.C14
open Ecpint.Bessel Ecpint.BesselLemmas
open scoped Nat

section
variable {α : Type} [LT α] [DecidableRel (fun a b : α => a < b)] [Zero α] [NatCast α]

theorem regime_nonpos (small z : α) (h : ¬ (0 : α) < z) : regime small z = .nonpos := by
  unfold regime
  rw [if_pos h]

theorem regime_small (small z : α) (h : (0 : α) < z) (h2 : z < small) : regime small z = .small := by
  unfold regime
  rw [if_neg (not_not_intro h), if_pos h2]

theorem regime_large (small z : α) (h : (0 : α) < z) (h2 : ¬ z < small) (h3 : ((16 : ℕ) : α) < z) :
    regime small z = .large := by
  unfold regime
  rw [if_neg (not_not_intro h), if_neg h2, if_pos h3]

theorem regime_table (small z : α) (h : (0 : α) < z) (h2 : ¬ z < small) (h3 : ¬ ((16 : ℕ) : α) < z) :
    regime small z = .table := by
  unfold regime
  rw [if_neg (not_not_intro h), if_neg h2, if_neg h3]

end

section
variable {K : Type} [Field K] [LinearOrder K] [IsStrictOrderedRing K]

/-- every argument is sent to exactly one formula, decided by these inequalities (0 < SMALL < 16) -/
theorem regime_spec (small z : K) (hs : 0 < small) (hs16 : small < 16) :
    (regime small z = .nonpos ↔ z ≤ 0) ∧ (regime small z = .small ↔ 0 < z ∧ z < small) ∧
    (regime small z = .table ↔ small ≤ z ∧ z ≤ 16) ∧ (regime small z = .large ↔ 16 < z) := by
  have e16 : ((16 : ℕ) : K) = 16 := Nat.cast_ofNat
  by_cases h1 : 0 < z
  · by_cases h2 : z < small
    · rw [regime_small small z h1 h2]
      simp only [reduceCtorEq, false_iff, true_iff, not_le, not_and, not_lt]
      exact ⟨h1, ⟨h1, h2⟩, fun h => absurd h (not_le.mpr h2), le_of_lt (lt_trans h2 hs16)⟩
    · have h2' : small ≤ z := not_lt.mp h2
      by_cases h3 : 16 < z
      · rw [regime_large small z h1 h2 (e16 ▸ h3)]
        simp only [reduceCtorEq, false_iff, true_iff, not_le, not_and, not_lt]
        exact ⟨h1, fun _ => h2', fun _ => h3, h3⟩
      · have h3' : z ≤ 16 := not_lt.mp h3
        rw [regime_table small z h1 h2 (e16 ▸ h3)]
        simp only [reduceCtorEq, false_iff, true_iff, not_le, not_and, not_lt]
        exact ⟨h1, fun _ => h2', ⟨h2', h3'⟩, h3'⟩
  · have h1' : z ≤ 0 := not_lt.mp h1
    rw [regime_nonpos small z h1]
    simp only [reduceCtorEq, false_iff, true_iff, not_le, not_and, not_lt]
    exact ⟨h1', fun h => absurd h h1, fun h => absurd (lt_of_lt_of_le hs h) h1, le_trans h1' (by norm_num)⟩

end

theorem abs_sub_floor_add_half_le {F : Type} [Field F] [LinearOrder F] [IsStrictOrderedRing F] [FloorSemiring F]
    (x : F) (hx : 0 ≤ x) : |x - (⌊x + 1 / 2⌋₊ : F)| ≤ 1 / 2 := by
  have hfl : (⌊x + 1 / 2⌋₊ : F) ≤ x + 1 / 2 := Nat.floor_le (add_nonneg hx one_half_pos.le)
  have hfu : x + 1 / 2 < (⌊x + 1 / 2⌋₊ : F) + 1 / 2 + 1 / 2 := by
    rw [add_assoc, add_halves]
    exact Nat.lt_floor_add_one _
  rw [abs_le, neg_le_sub_iff_le_add, sub_le_iff_le_add']
  exact ⟨hfl, (lt_of_add_lt_add_right hfu).le⟩

/-- in the table regime the row `⌊z·scale + ½⌋` exists (≤ N) and the Taylor step is at most half a spacing -/
theorem table_row_in_range {F : Type} [Field F] [LinearOrder F] [IsStrictOrderedRing F] [FloorSemiring F]
    (N : ℕ) (hN : 0 < N) (z : F) (h0 : 0 ≤ z) (h16 : z ≤ 16) :
    ⌊z * ((N : F) / 16) + 1 / 2⌋₊ ≤ N ∧
    |z - (⌊z * ((N : F) / 16) + 1 / 2⌋₊ : F) / ((N : F) / 16)| ≤ 1 / (2 * ((N : F) / 16)) := by
  have hs : (0 : F) < (N : F) / 16 := div_pos (Nat.cast_pos.mpr hN) (by norm_num)
  generalize hsdef : (N : F) / 16 = s at hs ⊢
  have hx : (0 : F) ≤ z * s := mul_nonneg h0 hs.le
  have hxN : z * s + 1 / 2 < ((N + 1 : ℕ) : F) := by
    have e : 16 * s = (N : F) := by rw [← hsdef, mul_div_cancel₀ _ (by norm_num : (16 : F) ≠ 0)]
    rw [Nat.cast_succ]
    exact add_lt_add_of_le_of_lt ((mul_le_mul_of_nonneg_right h16 hs.le).trans_eq e) one_half_lt_one
  refine ⟨Nat.lt_succ_iff.mp ((Nat.floor_lt (add_nonneg hx one_half_pos.le)).mpr hxN), ?_⟩
  have key : z - (⌊z * s + 1 / 2⌋₊ : F) / s = (z * s - (⌊z * s + 1 / 2⌋₊ : F)) / s := by
    rw [sub_div, mul_div_cancel_right₀ _ hs.ne']
  rw [key, abs_div, abs_of_pos hs, ← div_div]
  exact div_le_div_of_nonneg_right (abs_sub_floor_add_half_le _ hx) hs.le

section
variable {K : Type} [Field K]

theorem smallAll_closed (z : K) (l : ℕ) : smallAll z l = (1 - z) * z ^ l / (((2 * l + 1)‼ : ℕ) : K) := by
  induction l with
  | zero => simp [smallAll]
  | succ l ih =>
    have e : ((2 : ℕ) : K) * ((l + 1 : ℕ) : K) + 1 = ((2 * l + 1 + 2 : ℕ) : K) := by
      push_cast
      ring
    rw [smallAll, ih, e, show 2 * (l + 1) + 1 = 2 * l + 1 + 2 by ring, Nat.doubleFactorial_add_two, Nat.cast_mul, pow_succ,
      div_mul_eq_mul_div, div_div, mul_assoc, mul_comm (((2 * l + 1)‼ : ℕ) : K)]

/-- not the formula of the all-orders evaluator: the two coincide for L ≤ 1 and differ by less than z^L otherwise, far
below the absolute tolerance for z < SMALL -/
theorem smallOne_closed (z : K) (L : ℕ) : smallOne z L = (1 - z) * (z / (2 * (L : K) + 1)) ^ L := by
  unfold smallOne
  rw [foldl_mul_const, Nat.cast_ofNat]

/-- the derivative tables use the coefficients of the recurrence of e^{-z} i_l:
K_l' = (l·K_{l−1} + (l+1)·K_{l+1})/(2l+1) − K_l -/
theorem recStep_spec (l : ℕ) (a b c : K) :
    recStep l a b c = ((l : K) * a + ((l : K) + 1) * b) / (2 * (l : K) + 1) - c := by
  simp only [recStep, Nat.cast_ofNat]
  rw [← add_div, div_mul_eq_mul_div, div_mul_eq_mul_div, ← add_div]

/-- table regime: the two ways of accumulating the Taylor sum are the same sum `Σ_n dz^n/n! · c_n` -/
theorem taylorAll_closed (tc : ℕ) (dz : K) (c : ℕ → K) :
    taylorAll tc dz c = ∑ n ∈ Finset.range (tc + 1), dz ^ n / (n ! : K) * c n := by
  unfold taylorAll
  simp only [foldl_dzn]
  rw [FoldSum.foldl_add_eq_sum, zero_add, FoldSum.sum_map_range]

theorem taylorOne_closed (tc : ℕ) (dz : K) (c : ℕ → K) :
    taylorOne tc dz c = ∑ n ∈ Finset.range (tc + 1), dz ^ n / (n ! : K) * c n := by
  unfold taylorOne
  rw [foldl_taylorOne]

theorem taylorAll_eq_taylorOne (tc : ℕ) (dz : K) (c : ℕ → K) : taylorAll tc dz c = taylorOne tc dz c := by
  rw [taylorAll_closed, taylorOne_closed]

end

section
variable {K : Type} [Field K] [CharZero K]

theorem largeAll_eq_largeOne (v0 : K) (l : ℕ) : largeAll v0 l = largeOne v0 l := by
  unfold largeAll largeOne
  simp only
  congr 3
  funext acc i
  have e : (-((((l - (i + 1) + 1) * (l + (i + 1)) : ℕ) : K) / ((i + 1 : ℕ) : K)) * v0)
      = (-v0 * ((l - (i + 1) + 1 : ℕ) : K) * ((l + (i + 1) : ℕ) : K) / ((i + 1 : ℕ) : K)) := by
    rw [Nat.cast_mul]
    ring
  rw [e]

/-- both large-argument loops compute the asymptotic polynomial `v0 · Σ_{k ≤ l} (l+k)!/(k!(l−k)!) · (−v0)^k`,
`v0 = 1/(2z)` -/
theorem largeAll_closed (v0 : K) (l : ℕ) :
    largeAll v0 l = v0 * ∑ k ∈ Finset.range (l + 1), (((l + k)! : K) / ((k ! : K) * ((l - k)! : K))) * (-v0) ^ k := by
  rw [largeAll_eq_sum]
  congr 1
  exact Finset.sum_congr rfl fun k hk => by rw [aCoef_eq_factorial l k (Nat.lt_succ_iff.1 (Finset.mem_range.1 hk))]

end

/-- 2^(T+1)/(T+2) · (8/N)^(T+1) / (T+1)! < 1e-13 for the shipped T = TAYLOR_CUT, N = BESSEL_N: the Taylor remainder
of order T on half a grid spacing h/2 = 8/N of a function whose (T+1)-th derivative is bounded by 2^(T+1)/(T+2).
No theorem proves that bound of e^{-z} i_l(z); C14e proves 2^(T+1) and rests on `C14e.shipped_budget` instead -/
theorem taylor_budget :
    ((2 : ℚ) ^ (Gen.TAYLOR_CUT + 1) / (Gen.TAYLOR_CUT + 2)) * ((8 : ℚ) / Gen.BESSEL_N) ^ (Gen.TAYLOR_CUT + 1)
      / ((Gen.TAYLOR_CUT + 1)! : ℚ) < 1 / 10 ^ 13 := by
  simp only [Gen.TAYLOR_CUT, Gen.BESSEL_N]
  norm_num [Nat.factorial]

/-- the shipped threshold of the small-argument branch satisfies 0 < SMALL < 16, the ordering `regime_spec` needs -/
theorem small_ordered : (0 : ℚ) < Gen.SMALL_num / Gen.SMALL_den ∧ ((Gen.SMALL_num : ℚ) / Gen.SMALL_den) < 16 := by
  simp only [Gen.SMALL_num, Gen.SMALL_den]
  norm_num

end Ecpint.C14
