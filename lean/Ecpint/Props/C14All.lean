/- C14 — root of the property's theorems:
   C14   structure of the evaluators: regimes, agreement of the two evaluators, closed forms of the loops, budgets
   C14b  the real function K_l(z) = e^{-z} i_l(z), defined by the power series the code tabulates: closed forms for l = 0, 1,
         three-term recurrence, iterated derivatives = the code's `recStep` iterated, errors of the large-z polynomial and of the
         all-orders small-z formula
   C14c  what `tabulate` stores, over ℝ: J-term partial sums of that series (the same J for every l) and, in the derivative
         tables, the recurrence applied n times; for the shipped constants no table index is out of range
   C14d  C14b and C14c joined: stored rows converge to K_l(z) from below; derivative tables of an exact row are the true
         derivatives, so the table regime evaluates the Taylor polynomial of K_l about the node
   C14e  0 ≤ K_l ≤ 1 and |K_l^(n)| ≤ 2^n on z ≥ 0, Lipschitz constant 1 − a/2 on z ≥ a; truncation error of every stored row
         entry below the series accuracy; the Taylor value computed from the stored tables within 1e-14 + 1.02·acc of K_l(z)
   C14f  THE PROPERTY IN EXACT ARITHMETIC: regime dispatch, the error of each branch, and end to end: for the table `build` makes
         with the shipped constants, every real z and every order l ≤ lMax ≤ 15, both evaluators are within 1e-12 of e^{-z} i_l(z)
         and within 2e-12 of each other; `upper_bound` returns a table entry that is NOT an upper bound
         (upperBound T (3/200) 1 < K 1 (3/200): the root of the recorded finding estimate-not-a-bound) -/
import Ecpint.Props.C14
import Ecpint.Props.C14b
import Ecpint.Props.C14c
import Ecpint.Props.C14d
import Ecpint.Props.C14e
import Ecpint.Props.C14f
