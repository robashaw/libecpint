/-
C14b — the real function behind `BesselFunction`: K_l(z) = e^{-z} i_l(z) over ℝ, defined by the power series the code
tabulates, with the facts that tie the formulas of Ecpint/Model/Bessel.lean to it.
-/
import Ecpint.Props.C14
import Ecpint.Lemmas.BesselReal
import Mathlib.Analysis.SpecialFunctions.Trigonometric.Series
import Mathlib.Analysis.SpecialFunctions.Trigonometric.DerivHyp
import Mathlib.Analysis.Complex.ExponentialBounds

namespace Ecpint.C14b
open scoped Nat
open Ecpint.BesselReal Ecpint.BesselLemmas

/-- term j of the power series of i_l -/
noncomputable def iTerm (l j : ℕ) (z : ℝ) : ℝ := z ^ l * ((z ^ 2 / 2) ^ j / (j ! : ℝ) / (((2 * l + 2 * j + 1)‼ : ℕ) : ℝ))

noncomputable def sphI (l : ℕ) (z : ℝ) : ℝ := ∑' j, iTerm l j z

theorem iTerm_eq (l j : ℕ) (z : ℝ) : iTerm l j z = z ^ l * gTerm l j (z ^ 2 / 2) := rfl

theorem iTerm_succ_l (l m : ℕ) (z : ℝ) : iTerm (l + 1) m z = iTerm l m z * (z / (2 * (l : ℝ) + 2 * (m : ℝ) + 3)) := by
  rw [iTerm_eq, iTerm_eq, gTerm_succ_l, pow_succ]
  ring

theorem iTerm_succ_m (m : ℕ) (z : ℝ) :
    iTerm 0 (m + 1) z = iTerm 0 m z * ((z ^ 2 / 2) / (((m : ℝ) + 1) * (2 * (m : ℝ) + 3))) := by
  rw [iTerm_eq, iTerm_eq, gTerm_succ_j, Nat.cast_zero, mul_zero, zero_add, mul_assoc]

theorem iTerm_summable (l : ℕ) (z : ℝ) : Summable (iTerm l · z) :=
  (gTerm_summable l (z ^ 2 / 2)).mul_left (z ^ l)

theorem sphI_eq_G (l : ℕ) (z : ℝ) : sphI l z = z ^ l * G l (z ^ 2 / 2) := by
  unfold sphI G
  simp only [iTerm_eq]
  exact tsum_mul_left

theorem sphI_zero (z : ℝ) (hz : z ≠ 0) : sphI 0 z = Real.sinh z / z := by
  have h := (Real.hasSum_sinh z).div_const z
  have h' : HasSum (iTerm 0 · z) (Real.sinh z / z) := by
    refine h.congr_fun (fun n => ?_)
    simp only [iTerm, pow_zero, one_mul, Nat.mul_zero, Nat.zero_add]
    -- (2n+1)! = 2^n n! (2n+1)!!
    rw [Nat.factorial_eq_mul_doubleFactorial, Nat.doubleFactorial_two_mul, div_pow, ← pow_mul]
    push_cast
    have h1 := (fac_pos n).ne'
    have h2 := (dfac_pos (2 * n + 1)).ne'
    field_simp
    ring
  exact h'.tsum_eq

theorem sphI_rec_succ (l : ℕ) (z : ℝ) (hz : z ≠ 0) :
    sphI (l + 2) z = sphI l z - (2 * (l : ℝ) + 3) / z * sphI (l + 1) z := by
  rw [sphI_eq_G, sphI_eq_G, sphI_eq_G, eq_sub_iff_add_eq, div_mul_eq_mul_div, ← eq_sub_iff_add_eq', div_eq_iff hz]
  linear_combination (-(z ^ (l + 1))) * G_rec l (z ^ 2 / 2)

theorem sphI_hasDerivAt_G (l : ℕ) (z : ℝ) :
    HasDerivAt (sphI l)
      ((l : ℝ) * z ^ (l - 1) * G l (z ^ 2 / 2) + z ^ l * (G (l + 1) (z ^ 2 / 2) * z)) z := by
  have e : sphI l = fun z => z ^ l * G l (z ^ 2 / 2) := funext (sphI_eq_G l)
  rw [e]
  have h1 : HasDerivAt (fun z : ℝ => z ^ 2 / 2) z z := by
    have := (hasDerivAt_pow 2 z).div_const 2
    simpa using this
  have h2 : HasDerivAt (fun z : ℝ => G l (z ^ 2 / 2)) (G (l + 1) (z ^ 2 / 2) * z) z :=
    HasDerivAt.comp (h₂ := G l) (h := fun z : ℝ => z ^ 2 / 2) z (G_hasDerivAt l (z ^ 2 / 2)) h1
  exact (hasDerivAt_pow l z).mul h2

theorem sphI_hasDerivAt_zero (z : ℝ) : HasDerivAt (sphI 0) (sphI 1 z) z := by
  refine (sphI_hasDerivAt_G 0 z).congr_deriv ?_
  rw [sphI_eq_G, Nat.cast_zero, zero_mul, zero_mul, zero_add, pow_zero, one_mul, pow_one, mul_comm]

theorem sphI_one (z : ℝ) (hz : z ≠ 0) : sphI 1 z = (z * Real.cosh z - Real.sinh z) / z ^ 2 := by
  have h1 : HasDerivAt (sphI 0) (sphI 1 z) z := sphI_hasDerivAt_zero z
  have h2 : HasDerivAt (fun z => Real.sinh z / z) ((Real.cosh z * z - Real.sinh z * 1) / z ^ 2) z :=
    (Real.hasDerivAt_sinh z).div (hasDerivAt_id z) hz
  have h3 : sphI 0 =ᶠ[nhds z] fun z => Real.sinh z / z := by
    filter_upwards [isOpen_ne.mem_nhds hz] with y hy
    exact sphI_zero y hy
  have := h1.unique (h2.congr_of_eventuallyEq h3)
  rw [this]
  ring

theorem sphI_at_zero (l : ℕ) : sphI l 0 = if l = 0 then 1 else 0 := by
  rw [sphI_eq_G]
  split_ifs with h
  · subst h
    simp [G_at_zero]
  · simp [zero_pow h]

theorem sphI_hasDerivAt_succ (l : ℕ) (z : ℝ) :
    HasDerivAt (sphI (l + 1))
      ((((l : ℝ) + 1) * sphI l z + ((l : ℝ) + 2) * sphI (l + 2) z) / (2 * (l : ℝ) + 3)) z := by
  refine (sphI_hasDerivAt_G (l + 1) z).congr_deriv ?_
  have h3 : (2 * (l : ℝ) + 3) ≠ 0 := by positivity
  rw [Nat.add_sub_cancel, sphI_eq_G, sphI_eq_G, eq_div_iff h3]
  push_cast
  linear_combination (-(((l : ℝ) + 1) * z ^ l)) * G_rec l (z ^ 2 / 2)

noncomputable def K (l : ℕ) (z : ℝ) : ℝ := Real.exp (-z) * sphI l z

/-- the value the `z <= 0` branch returns -/
theorem K_at_zero (l : ℕ) : K l 0 = if l = 0 then 1 else 0 := by
  rw [K, sphI_at_zero]
  simp

/-- `row[0] = prev[1] - prev[0]` of derivRows -/
theorem K_hasDerivAt_zero (z : ℝ) : HasDerivAt (K 0) (K 1 z - K 0 z) z := by
  have h : HasDerivAt (K 0) _ z := (hasDerivAt_neg z).exp.mul (sphI_hasDerivAt_zero z)
  refine h.congr_deriv ?_
  simp only [K]
  ring

/-- the entries l ≥ 1 of derivRows -/
theorem K_hasDerivAt_succ (l : ℕ) (z : ℝ) :
    HasDerivAt (K (l + 1)) (Ecpint.Bessel.recStep (l + 1) (K l z) (K (l + 2) z) (K (l + 1) z)) z := by
  have h : HasDerivAt (K (l + 1)) _ z := (hasDerivAt_neg z).exp.mul (sphI_hasDerivAt_succ l z)
  refine h.congr_deriv ?_
  rw [Ecpint.C14.recStep_spec]
  simp only [K]
  push_cast
  ring

theorem K_hasDerivAt_dRec (l : ℕ) (z : ℝ) : HasDerivAt (K l) (dRec (fun l => K l z) 1 l) z := by
  cases l with
  | zero => exact K_hasDerivAt_zero z
  | succ l => exact K_hasDerivAt_succ l z

/-- the recurrence is linear with constant coefficients, so it commutes with d/dz -/
theorem dRec_K_hasDerivAt (n l : ℕ) (z : ℝ) :
    HasDerivAt (fun z => dRec (fun l => K l z) n l) (dRec (fun l => K l z) (n + 1) l) z := by
  induction n generalizing l z with
  | zero => exact K_hasDerivAt_dRec l z
  | succ n ih =>
    cases l with
    | zero => exact (ih 1 z).sub (ih 0 z)
    | succ l =>
      simp only [dRec]
      unfold Ecpint.Bessel.recStep
      exact (((ih l z).const_mul _).add ((ih (l + 2) z).const_mul _)).sub (ih (l + 1) z)

/-- the iterated derivatives of K_l are what `derivRows` computes from an exact row -/
theorem iteratedDeriv_K_fun (n l : ℕ) : iteratedDeriv n (K l) = fun z => dRec (fun l => K l z) n l := by
  induction n with
  | zero =>
    rw [iteratedDeriv_zero]
    rfl
  | succ n ih =>
    rw [iteratedDeriv_succ, ih]
    funext z
    exact (dRec_K_hasDerivAt n l z).deriv

theorem iteratedDeriv_K (n l : ℕ) (z : ℝ) : iteratedDeriv n (K l) z = dRec (fun l => K l z) n l := by
  rw [iteratedDeriv_K_fun]

theorem K_rec (l : ℕ) (z : ℝ) (hz : z ≠ 0) :
    K (l + 2) z = K l z - (2 * (l : ℝ) + 3) / z * K (l + 1) z := by
  simp only [K]
  rw [sphI_rec_succ l z hz]
  ring

theorem exp_neg_two_mul (z : ℝ) : Real.exp (-2 * z) = (Real.exp z)⁻¹ ^ 2 := by
  rw [← Real.exp_neg, ← Real.exp_nat_mul]
  congr 1
  push_cast
  ring

/-- the asymptotic polynomial is exact up to an e^{-2z} term -/
theorem K_large (l : ℕ) (z : ℝ) (hz : 0 < z) :
    K l z = Ecpint.Bessel.largeAll (1 / (2 * z)) l
            + (-1) ^ l * Real.exp (-2 * z) * Ecpint.Bessel.largeAll (-(1 / (2 * z))) l := by
  have hz0 : z ≠ 0 := hz.ne'
  have he : Real.exp z ≠ 0 := (Real.exp_pos z).ne'
  induction l using Nat.twoStepInduction with
  | zero =>
    rw [largeAll_zero, largeAll_zero, K, sphI_zero z hz0, Real.sinh_eq, exp_neg_two_mul, Real.exp_neg]
    field_simp
    ring
  | one =>
    rw [largeAll_one, largeAll_one, K, sphI_one z hz0, Real.sinh_eq, Real.cosh_eq, exp_neg_two_mul, Real.exp_neg]
    field_simp
    ring
  | more l ih0 ih1 =>
    rw [K_rec l z hz0, ih0, ih1, largeAll_rec (1 / (2 * z)) l, largeAll_rec (-(1 / (2 * z))) l]
    field_simp
    ring

/-- accuracy of the `z > 16` branch, which uses the polynomial without the second term -/
theorem K_large_error (l : ℕ) (z : ℝ) (hz : 16 < z) :
    |K l z - Ecpint.Bessel.largeAll (1 / (2 * z)) l|
      ≤ Real.exp (-32) * |Ecpint.Bessel.largeAll (-(1 / (2 * z))) l| := by
  rw [K_large l z (by linarith only [hz]), add_sub_cancel_left, abs_mul, abs_mul, abs_pow, abs_neg, abs_one, one_pow, one_mul,
    abs_of_pos (Real.exp_pos _)]
  apply mul_le_mul_of_nonneg_right _ (abs_nonneg _)
  apply Real.exp_le_exp.mpr
  linarith only [hz]

/-- the polynomial of the neglected term at v = 1/32, for the orders the library initialises (l ≤ 3·MAX_L = 15): it grows with l,
and at l = 15 it is 30.17… -/
theorem Q_le (l : ℕ) (hl : l ≤ 15) :
    (1 / 32 : ℝ) * ∑ k ∈ Finset.range (l + 1), aCoef l k * (1 / 32 : ℝ) ^ k ≤ 31 := by
  refine le_trans (mul_le_mul_of_nonneg_left (aSum_mono (1 / 32) (by norm_num) hl) (by norm_num)) ?_
  simp only [Finset.sum_range_succ, Finset.sum_range_zero, aCoef]
  norm_num [Nat.descFactorial, Nat.factorial]

theorem exp_neg_32_lt : Real.exp (-32) < 1 / (2.7 : ℝ) ^ 32 := by
  have h : (2.7 : ℝ) ^ 32 < Real.exp 32 := by
    have h1 := Real.exp_one_gt_d9
    have h2 : (2.7 : ℝ) < Real.exp 1 := lt_trans (by norm_num) h1
    calc (2.7 : ℝ) ^ 32 < (Real.exp 1) ^ 32 := pow_lt_pow_left₀ h2 (by norm_num) (by norm_num)
      _ = Real.exp 32 := by
          rw [← Real.exp_nat_mul]
          norm_num
  rw [Real.exp_neg, inv_eq_one_div]
  exact one_div_lt_one_div_of_lt (by positivity) h

theorem largeAll_neg_abs_le (l : ℕ) (hl : l ≤ 15) (z : ℝ) (hz : 16 < z) :
    |Ecpint.Bessel.largeAll (-(1 / (2 * z))) l| ≤ 31 := by
  have hv0 : 0 < 1 / (2 * z) := by positivity
  have hv : 1 / (2 * z) ≤ 1 / 32 := one_div_le_one_div_of_le (by norm_num) (by linarith only [hz])
  have hs : 0 ≤ ∑ k ∈ Finset.range (l + 1), aCoef l k * (1 / (2 * z)) ^ k :=
    Finset.sum_nonneg (fun k _ => mul_nonneg (aCoef_nonneg l k) (pow_nonneg hv0.le k))
  rw [largeAll_eq_sum, neg_neg, abs_mul, abs_neg, abs_of_pos hv0, abs_of_nonneg hs]
  refine le_trans ?_ (Q_le l hl)
  refine mul_le_mul hv (Finset.sum_le_sum fun k _ => ?_) hs (by norm_num)
  exact mul_le_mul_of_nonneg_left (pow_le_pow_left₀ hv0.le hv k) (aCoef_nonneg l k)

/-- for every order the library initialises (l ≤ 3·MAX_L = 15), dropping the e^{-2z} term in the z > 16 branch costs less than
31 e^{-32} < 5e-13 in absolute terms -/
theorem K_large_error_sharp (l : ℕ) (hl : l ≤ 15) (z : ℝ) (hz : 16 < z) :
    |K l z - Ecpint.Bessel.largeAll (1 / (2 * z)) l| < 5 / 10 ^ 13 := by
  calc |K l z - Ecpint.Bessel.largeAll (1 / (2 * z)) l|
      ≤ Real.exp (-32) * |Ecpint.Bessel.largeAll (-(1 / (2 * z))) l| := K_large_error l z hz
    _ ≤ Real.exp (-32) * 31 := mul_le_mul_of_nonneg_left (largeAll_neg_abs_le l hl z hz) (Real.exp_pos _).le
    _ < 1 / (2.7 : ℝ) ^ 32 * 31 := mul_lt_mul_of_pos_right exp_neg_32_lt (by norm_num)
    _ < 5 / 10 ^ 13 := by norm_num

/-- … hence less than the absolute tolerance 1e-12 -/
theorem K_large_error_numeric (l : ℕ) (hl : l ≤ 15) (z : ℝ) (hz : 16 < z) :
    |K l z - Ecpint.Bessel.largeAll (1 / (2 * z)) l| < 1 / 10 ^ 12 :=
  lt_trans (K_large_error_sharp l hl z hz) (by norm_num)

theorem K_small (l : ℕ) (z : ℝ) (hz0 : 0 ≤ z) (hz1 : z ≤ 1) :
    |K l z - Ecpint.Bessel.smallAll z l| ≤ 2 * z ^ (l + 2) := by
  -- with d = (2l+1)!! ≥ 1:  K_l − (1 − z) z^l/d = z^l ((e^{-z} − 1 + z)/d + e^{-z} (G_l(z²/2) − 1/d)), each summand at most z²
  have hw0 : 0 ≤ z ^ 2 / 2 := by positivity
  have hw1 : |z ^ 2 / 2| ≤ 1 := by
    rw [abs_of_nonneg hw0]
    linarith only [pow_le_one₀ (n := 2) hz0 hz1]
  have hA : |(Real.exp (-z) - 1 - (-z)) / (((2 * l + 1)‼ : ℕ) : ℝ)| ≤ z ^ 2 := by
    have h := Real.abs_exp_sub_one_sub_id_le (x := -z) (by rwa [abs_neg, abs_of_nonneg hz0])
    rw [neg_sq] at h
    rw [abs_div, abs_of_pos (dfac_pos _)]
    exact (div_le_self (abs_nonneg _) (dfac_ge_one _)).trans h
  have hB : |Real.exp (-z) * (G l (z ^ 2 / 2) - 1 / (((2 * l + 1)‼ : ℕ) : ℝ))| ≤ z ^ 2 := by
    have h1 : Real.exp (-z) ≤ 1 := Real.exp_le_one_iff.mpr (neg_nonpos.2 hz0)
    have h2 := (le_abs_self _).trans (Real.abs_exp_sub_one_le hw1)
    rw [abs_of_nonneg hw0, mul_div_cancel₀ _ (two_ne_zero' ℝ)] at h2
    rw [abs_mul, abs_of_pos (Real.exp_pos _)]
    exact (mul_le_mul h1 (G_sub_le l _ hw0) (abs_nonneg _) zero_le_one).trans ((one_mul _).trans_le h2)
  have key : Real.exp (-z) * (z ^ l * G l (z ^ 2 / 2)) - (1 - z) * z ^ l / (((2 * l + 1)‼ : ℕ) : ℝ)
      = z ^ l * ((Real.exp (-z) - 1 - (-z)) / (((2 * l + 1)‼ : ℕ) : ℝ)
          + Real.exp (-z) * (G l (z ^ 2 / 2) - 1 / (((2 * l + 1)‼ : ℕ) : ℝ))) := by
    ring
  rw [Ecpint.C14.smallAll_closed, K, sphI_eq_G, key, abs_mul, abs_of_nonneg (pow_nonneg hz0 l)]
  calc z ^ l * |(Real.exp (-z) - 1 - (-z)) / (((2 * l + 1)‼ : ℕ) : ℝ)
          + Real.exp (-z) * (G l (z ^ 2 / 2) - 1 / (((2 * l + 1)‼ : ℕ) : ℝ))|
      ≤ z ^ l * (z ^ 2 + z ^ 2) :=
        mul_le_mul_of_nonneg_left ((abs_add_le _ _).trans (add_le_add hA hB)) (pow_nonneg hz0 l)
    _ = 2 * z ^ (l + 2) := by ring

theorem pow_lt_sq (s z : ℝ) (hz0 : 0 ≤ z) (hzs : z < s) (hs1 : s ≤ 1) (k : ℕ) : z ^ (k + 2) < s ^ 2 :=
  calc z ^ (k + 2) = z ^ k * z ^ 2 := pow_add z k 2
    _ ≤ 1 * z ^ 2 := mul_le_mul_of_nonneg_right (pow_le_one₀ hz0 (by linarith only [hzs, hs1])) (sq_nonneg z)
    _ = z ^ 2 := one_mul _
    _ < s ^ 2 := pow_lt_pow_left₀ hzs hz0 two_ne_zero

theorem smallAll_error (s : ℝ) (hs1 : s ≤ 1) (l : ℕ) (z : ℝ) (hz0 : 0 < z) (hzs : z < s) :
    |K l z - Ecpint.Bessel.smallAll z l| < 2 * s ^ 2 :=
  lt_of_le_of_lt (K_small l z hz0.le (by linarith only [hzs, hs1]))
    (by linarith only [pow_lt_sq s z hz0.le hzs hs1 l])

/-- below the threshold of the small-argument branch (SMALL = 1e-7) the error is below 1e-12 for every order -/
theorem K_small_error (l : ℕ) (z : ℝ) (hz0 : 0 < z) (hz1 : z < 1 / 10 ^ 7) :
    |K l z - Ecpint.Bessel.smallAll z l| ≤ 2 * z ^ (l + 2) ∧ 2 * z ^ (l + 2) < 1 / 10 ^ 12 := by
  have hs1 : (1 : ℝ) / 10 ^ 7 ≤ 1 := by norm_num
  have hp := pow_lt_sq (1 / 10 ^ 7) z hz0.le hz1 hs1 l
  refine ⟨K_small l z hz0.le (by linarith only [hz1, hs1]), ?_⟩
  norm_num at hp ⊢
  linarith only [hp]

end Ecpint.C14b
