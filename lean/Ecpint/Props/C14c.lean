/-
C14c — what the tabulation of `BesselFunction` (Model/Bessel.lean: `dfacTable`, `seriesLoop`, `seriesSum`, `tabulateRow`)
computes, over ℝ: every stored K[i][l] is e^{-z} times a partial sum of the power series of i_l(z).
-/
import Ecpint.Lemmas.Bessel
import Ecpint.Lemmas.FoldSumFinset
import Mathlib.Analysis.SpecialFunctions.Exp
import Mathlib.Data.Nat.Factorial.DoubleFactorial
import Mathlib.Tactic.IntervalCases

namespace Ecpint.C14c
open Ecpint.Bessel Ecpint.BesselLemmas
open scoped Nat

/-- the real numbers as scalars of the Bessel model -/
noncomputable instance : Bessel.Num ℝ :=
  { exp := Real.exp, floorNat := fun x => ⌊x⌋₊, abs := fun x => |x|, decLt := fun _ _ => Classical.propDecidable _ }

@[simp] theorem num_exp (x : ℝ) : Num.exp x = Real.exp x := rfl
@[simp] theorem num_floorNat (x : ℝ) : Num.floorNat x = ⌊x⌋₊ := rfl
@[simp] theorem num_abs (x : ℝ) : Num.abs x = |x| := rfl

theorem getBang_push_size {α : Type} [Inhabited α] {a : Array α} {n : ℕ} (h : a.size = n) (x : α) : (a.push x)[n]! = x :=
  h ▸ ArrayLemmas.getBang_push_eq a x

theorem node_mem (N i : ℕ) (hN : 0 < N) (hi : i ≤ N) :
    0 ≤ (i : ℝ) / ((N : ℝ) / 16) ∧ (i : ℝ) / ((N : ℝ) / 16) ≤ 16 := by
  have hs : (0 : ℝ) < (N : ℝ) / 16 := div_pos (Nat.cast_pos.mpr hN) (by norm_num)
  refine ⟨div_nonneg (Nat.cast_nonneg _) hs.le, ?_⟩
  rw [div_le_iff₀ hs, mul_div_cancel₀ _ (by norm_num : (16 : ℝ) ≠ 0)]
  exact_mod_cast hi

theorem dfacTable_spec (n i : ℕ) (hi : i < n) (hn : 2 ≤ n) : (dfacTable (α := ℝ) n)[i]! = ((i‼ : ℕ) : ℝ) := by
  unfold dfacTable
  refine (ArrayLemmas.foldl_push (fun i => ((i‼ : ℕ) : ℝ)) (fun a k => ((k + 2 : ℕ) : ℝ) * a[k]!) #[1, 1]
    (fun j hj => ?_) (fun a k hs hv => ?_) (n - 2)).2 i ?_
  · have hj2 : j < 2 := hj
    interval_cases j <;> simp
  · have hs2 : a.size = k + 2 := hs.trans (Nat.add_comm 2 k)
    rw [hv k (by omega), hs2, Nat.doubleFactorial_add_two, Nat.cast_mul]
  · show i < 2 + (n - 2)
    omega

/-- invariant of the series loop of `tabulate` before iteration j -/
structure SInv (dfac : Array ℝ) (F0 z2 : ℝ) (j : ℕ) (F : Array ℝ) (ratio k0 : ℝ) : Prop where
  pos : 1 ≤ j
  size : F.size = j
  vals : ∀ m < j, F[m]! = F0 * z2 ^ m / (m ! : ℝ)
  ratio_eq : ratio = F0 * z2 ^ (j - 1) / ((j - 1)! : ℝ) / dfac[2 * (j - 1) + 1]!
  k0_eq : k0 = ∑ m ∈ Finset.range j, F[m]! / dfac[2 * m + 1]!

theorem SInv.init (dfac : Array ℝ) (hd0 : dfac[0]! = 1) (hd1 : dfac[1]! = 1) (F0 z2 : ℝ) :
    SInv dfac F0 z2 1 #[F0] (F0 / dfac[0]!) (F0 / dfac[0]!) := by
  have hF : (#[F0] : Array ℝ)[0]! = F0 := rfl
  refine ⟨le_refl _, rfl, fun m hm => ?_, ?_, ?_⟩
  · rw [Nat.lt_one_iff.1 hm, hF, pow_zero, mul_one, Nat.factorial_zero, Nat.cast_one, div_one]
  · rw [Nat.sub_self, pow_zero, mul_one, Nat.factorial_zero, Nat.cast_one, div_one, hd0, hd1]
  · rw [Finset.sum_range_one, hF, hd0, hd1]

theorem SInv.step {dfac : Array ℝ} {F0 z2 : ℝ} {j : ℕ} {F : Array ℝ} {ratio k0 : ℝ} (h : SInv dfac F0 z2 j F ratio k0) :
    SInv dfac F0 z2 (j + 1) (F.push (F[j - 1]! * z2 / (j : ℝ)))
      (F[j - 1]! * z2 / (j : ℝ) / dfac[2 * j + 1]!) (k0 + F[j - 1]! * z2 / (j : ℝ) / dfac[2 * j + 1]!) := by
  have hlt : ∀ m, m < j → ∀ x : ℝ, (F.push x)[m]! = F[m]! := fun m hm x =>
    ArrayLemmas.getBang_push_lt _ _ _ (h.size.symm ▸ hm)
  have hnew : F[j - 1]! * z2 / (j : ℝ) = F0 * z2 ^ j / (j ! : ℝ) := by
    obtain ⟨i, rfl⟩ : ∃ i, j = i + 1 := ⟨j - 1, (Nat.sub_add_cancel h.pos).symm⟩
    rw [Nat.add_sub_cancel, h.vals i (Nat.lt_succ_self i), Nat.factorial_succ, Nat.cast_mul, pow_succ, div_mul_eq_mul_div,
      div_div, mul_assoc, mul_comm ((i ! : ℕ) : ℝ)]
  refine ⟨Nat.succ_pos j, by rw [Array.size_push, h.size], fun m hm => ?_, ?_, ?_⟩
  · rcases Nat.lt_succ_iff_lt_or_eq.1 hm with hm' | rfl
    · rw [hlt m hm']
      exact h.vals m hm'
    · rw [getBang_push_size h.size, hnew]
  · rw [Nat.add_sub_cancel, hnew]
  · rw [Finset.sum_range_succ, h.k0_eq, getBang_push_size h.size]
    congr 1
    exact Finset.sum_congr rfl fun m hm => by rw [hlt m (Finset.mem_range.mp hm)]

/-- the loop stops at the FIRST index J from j on whose term `F0 z2^(J-1)/(J-1)!/DFAC[2J-1]` is below the accuracy, or at
j + fuel -/
theorem seriesLoop_spec (dfac : Array ℝ) (F0 z2 acc : ℝ) (fuel : ℕ) :
    ∀ (j : ℕ) (F : Array ℝ) (ratio k0 : ℝ), SInv dfac F0 z2 j F ratio k0 →
      let r := seriesLoop dfac z2 acc fuel j F ratio k0
      (∃ ratio', SInv dfac F0 z2 r.2.2 r.1 ratio' r.2.1) ∧ j ≤ r.2.2 ∧ r.2.2 ≤ j + fuel ∧
        (r.2.2 < j + fuel → F0 * z2 ^ (r.2.2 - 1) / ((r.2.2 - 1)! : ℝ) / dfac[2 * (r.2.2 - 1) + 1]! < acc) ∧
        ∀ m, j ≤ m → m < r.2.2 → ¬ F0 * z2 ^ (m - 1) / ((m - 1)! : ℝ) / dfac[2 * (m - 1) + 1]! < acc := by
  induction fuel with
  | zero =>
    intro j F ratio k0 h
    exact ⟨⟨_, h⟩, le_rfl, le_rfl, fun hh => absurd hh (lt_irrefl _),
      fun m h1 h2 => absurd (lt_of_le_of_lt h1 h2) (lt_irrefl _)⟩
  | succ fuel ih =>
    intro j F ratio k0 h
    simp only [seriesLoop]
    split
    · rename_i hlt
      refine ⟨⟨_, h⟩, le_rfl, Nat.le_add_right _ _, fun _ => ?_,
        fun m h1 h2 => absurd (lt_of_le_of_lt h1 h2) (lt_irrefl _)⟩
      rw [← h.ratio_eq]
      exact hlt
    · rename_i hnot
      obtain ⟨a, b, c, d, e⟩ := ih _ _ _ _ h.step
      refine ⟨a, by omega, by omega, fun hh => d (by omega), fun m h1 h2 => ?_⟩
      rcases Nat.eq_or_lt_of_le h1 with rfl | h1'
      · rw [← h.ratio_eq]
        exact hnot
      · exact e m h1' h2

/-- the J-term partial sum of the power series of K_l(z) = e^{-z} i_l(z):
e^{-z} Σ_{m<J} z^l (z²/2)^m / (m! (2l+2m+1)!!) -/
noncomputable def Kpartial (J l : ℕ) (z : ℝ) : ℝ :=
  Real.exp (-z) * ∑ m ∈ Finset.range J, z ^ l * ((z ^ 2 / 2) ^ m / (m ! : ℝ) / (((2 * l + 2 * m + 1)‼ : ℕ) : ℝ))

theorem seriesSum_eq (dfac F : Array ℝ) (J l : ℕ) :
    seriesSum dfac F J l = ∑ m ∈ Finset.range J, F[m]! / dfac[2 * l + 2 * m + 1]! := by
  unfold seriesSum
  rw [FoldSum.foldl_add_eq_sum, zero_add, FoldSum.sum_map_range]

theorem row_foldl (z k0 : ℝ) (g : ℕ → ℝ) (k : ℕ) :
    let r := (List.range k).foldl (fun (acc : Array ℝ × ℝ) i => (acc.1.push (acc.2 * g (i + 1)), acc.2 * z)) (#[k0], z)
    r.1.size = k + 1 ∧ r.2 = z ^ (k + 1) ∧ r.1[0]! = k0 ∧ ∀ l, 1 ≤ l → l ≤ k → r.1[l]! = z ^ l * g l := by
  induction k with
  | zero => exact ⟨rfl, (pow_one z).symm, rfl, fun l h1 h0 => absurd h1 (by omega)⟩
  | succ k ih =>
    simp only [List.range_succ, List.foldl_append, List.foldl_cons, List.foldl_nil]
    obtain ⟨h1, h2, h3, h4⟩ := ih
    generalize (List.range k).foldl (fun (acc : Array ℝ × ℝ) i => (acc.1.push (acc.2 * g (i + 1)), acc.2 * z)) (#[k0], z) = r
      at h1 h2 h3 h4 ⊢
    refine ⟨by rw [Array.size_push, h1], by rw [h2, ← pow_succ], ?_, fun l hl hlk => ?_⟩
    · rw [ArrayLemmas.getBang_push_lt _ _ _ (by omega)]
      exact h3
    · rcases Nat.lt_succ_iff_lt_or_eq.1 (Nat.lt_succ_of_le hlk) with h | rfl
      · rw [ArrayLemmas.getBang_push_lt _ _ _ (by omega)]
        exact h4 l hl (Nat.lt_succ_iff.1 h)
      · rw [getBang_push_size h1, h2]

/-- the state (F, K_0, J) in which the series loop of `tabulate` leaves grid point i -/
noncomputable def rowLoop (n N order : ℕ) (acc : ℝ) (i : ℕ) : Array ℝ × ℝ × ℕ :=
  let dfac := dfacTable (α := ℝ) n
  let z : ℝ := (i : ℝ) / ((N : ℝ) / 16)
  seriesLoop dfac (z * z / 2) acc order 1 #[Real.exp (-z)] (Real.exp (-z) / dfac[0]!) (Real.exp (-z) / dfac[0]!)

/-- the number J of series terms kept at grid point i -/
noncomputable def rowTerms (n N order : ℕ) (acc : ℝ) (i : ℕ) : ℕ := (rowLoop n N order acc i).2.2

theorem tabulateRow_eq (n N order lmax : ℕ) (acc : ℝ) (i : ℕ) :
    tabulateRow (dfacTable (α := ℝ) n) N order lmax acc i =
      ((List.range lmax).foldl (fun (a : Array ℝ × ℝ) k =>
        (a.1.push (a.2 * seriesSum (dfacTable (α := ℝ) n) (rowLoop n N order acc i).1 (rowTerms n N order acc i) (k + 1)),
          a.2 * ((i : ℝ) / ((N : ℝ) / 16))))
        (#[(rowLoop n N order acc i).2.1], (i : ℝ) / ((N : ℝ) / 16))).1 := by
  have hcast : (((16 : ℕ) : ℝ)) = 16 := by norm_num
  simp only [tabulateRow, rowTerms, rowLoop, num_exp, hcast]
  rfl

theorem rowLoop_spec (n N order : ℕ) (acc : ℝ) (i : ℕ) (hn : 2 ≤ n) :
    let dfac := dfacTable (α := ℝ) n
    let z : ℝ := (i : ℝ) / ((N : ℝ) / 16)
    let J := rowTerms n N order acc i
    (∃ ratio', SInv dfac (Real.exp (-z)) (z * z / 2) J (rowLoop n N order acc i).1 ratio' (rowLoop n N order acc i).2.1) ∧
    1 ≤ J ∧ J ≤ 1 + order ∧
    (J < 1 + order → Real.exp (-z) * (z * z / 2) ^ (J - 1) / ((J - 1)! : ℝ) / dfac[2 * (J - 1) + 1]! < acc) ∧
    ∀ m, 1 ≤ m → m < J → ¬ Real.exp (-z) * (z * z / 2) ^ (m - 1) / ((m - 1)! : ℝ) / dfac[2 * (m - 1) + 1]! < acc := by
  have hd0 : (dfacTable (α := ℝ) n)[0]! = 1 := by simpa using dfacTable_spec n 0 (by omega) hn
  have hd1 : (dfacTable (α := ℝ) n)[1]! = 1 := by simpa using dfacTable_spec n 1 (by omega) hn
  exact seriesLoop_spec _ _ _ acc order 1 _ _ _ (SInv.init _ hd0 hd1 _ _)

/-- EVERY entry of a table row is e^{-z} times a partial sum of the power series of i_l, with the SAME number J of terms for
all l; J is where the l = 0 term first drops below the accuracy (or order + 1).  The hypothesis `2 lmax + 2 J ≤ n` says that
every index into the double-factorial table is inside it (see `tabulate_indices_in_table` for the shipped constants). -/
theorem tabulateRow_spec_J (n N order lmax : ℕ) (acc : ℝ) (i : ℕ) (hn : 2 ≤ n) :
    let J := rowTerms n N order acc i
    let z : ℝ := (i : ℝ) / ((N : ℝ) / 16)
    1 ≤ J ∧ J ≤ order + 1 ∧ (tabulateRow (dfacTable (α := ℝ) n) N order lmax acc i).size = lmax + 1 ∧
      (2 * lmax + 2 * J ≤ n →
        (J ≤ order → Kpartial J 0 z - Kpartial (J - 1) 0 z < acc) ∧
        ∀ l ≤ lmax, (tabulateRow (dfacTable (α := ℝ) n) N order lmax acc i)[l]! = Kpartial J l z) := by
  dsimp only
  have hd : ∀ k, k < n → (dfacTable (α := ℝ) n)[k]! = ((k‼ : ℕ) : ℝ) := fun k hk => dfacTable_spec n k hk hn
  obtain ⟨⟨_, hS⟩, hJ1, hJ2, hstop, -⟩ := rowLoop_spec n N order acc i hn
  obtain ⟨r1, -, r3, r4⟩ := row_foldl ((i : ℝ) / ((N : ℝ) / 16)) (rowLoop n N order acc i).2.1
    (fun l => seriesSum (dfacTable (α := ℝ) n) (rowLoop n N order acc i).1 (rowTerms n N order acc i) l) lmax
  rw [tabulateRow_eq]
  generalize rowTerms n N order acc i = J at *
  generalize (rowLoop n N order acc i).1 = F at *
  generalize (rowLoop n N order acc i).2.1 = k0 at *
  generalize (i : ℝ) / ((N : ℝ) / 16) = z at *
  generalize (List.foldl _ (#[k0], z) (List.range lmax)).1 = row at r1 r3 r4 ⊢
  have hzz : z * z / 2 = z ^ 2 / 2 := by ring
  have hterm : ∀ l m, m < J → 2 * l + 2 * m + 1 < n →
      F[m]! / (dfacTable (α := ℝ) n)[2 * l + 2 * m + 1]!
        = Real.exp (-z) * ((z ^ 2 / 2) ^ m / (m ! : ℝ) / (((2 * l + 2 * m + 1)‼ : ℕ) : ℝ)) := by
    intro l m hm hlt
    rw [hS.vals m hm, hd _ hlt, hzz]
    ring
  refine ⟨hJ1, by omega, r1, fun hidx => ⟨fun hJo => ?_, fun l hl => ?_⟩⟩
  · have hlast := hstop (by omega)
    obtain ⟨j', rfl⟩ : ∃ j', J = j' + 1 := ⟨J - 1, by omega⟩
    simp only [Nat.add_sub_cancel] at hlast ⊢
    rw [hd _ (by omega), hzz, mul_div_assoc, mul_div_assoc] at hlast
    unfold Kpartial
    rw [Finset.sum_range_succ, mul_add, add_sub_cancel_left]
    simpa using hlast
  · -- entry l is z^l times the inner sum over the J terms kept (for l = 0 the running sum of the loop)
    have hentry : row[l]! = z ^ l * ∑ m ∈ Finset.range J, F[m]! / (dfacTable (α := ℝ) n)[2 * l + 2 * m + 1]! := by
      rcases Nat.eq_zero_or_pos l with rfl | hpos
      · rw [r3, hS.k0_eq, pow_zero, one_mul]
        simp only [Nat.mul_zero, Nat.zero_add]
      · rw [r4 l hpos hl, seriesSum_eq]
    rw [hentry]
    unfold Kpartial
    rw [Finset.mul_sum, Finset.mul_sum]
    refine Finset.sum_congr rfl fun m hm => ?_
    have hm' := Finset.mem_range.mp hm
    rw [hterm l m hm' (by omega)]
    ring

theorem tabulateRow_spec (n N order lmax : ℕ) (acc : ℝ) (i : ℕ) (hn : 2 ≤ n) :
    ∃ J, 1 ≤ J ∧ J ≤ order + 1 ∧
      (tabulateRow (dfacTable (α := ℝ) n) N order lmax acc i).size = lmax + 1 ∧
      (2 * lmax + 2 * J ≤ n →
        (J ≤ order → Kpartial J 0 ((i : ℝ) / ((N : ℝ) / 16)) - Kpartial (J - 1) 0 ((i : ℝ) / ((N : ℝ) / 16)) < acc) ∧
        ∀ l ≤ lmax,
          (tabulateRow (dfacTable (α := ℝ) n) N order lmax acc i)[l]! = Kpartial J l ((i : ℝ) / ((N : ℝ) / 16))) :=
  ⟨_, tabulateRow_spec_J n N order lmax acc i hn⟩

theorem ratio34_small : (128 : ℝ) ^ 34 / ((34 ! : ℕ) : ℝ) / (((69‼ : ℕ)) : ℝ) < 1 / 10 ^ 15 := by
  rw [show (34 ! : ℕ) = 295232799039604140847618609643520000000 by decide,
    show (69‼ : ℕ) = 33738248995437774706530672059641953140588743359375 by decide]
  norm_num

/-- For the table sizes of the working tree (series order BESSEL_ORDER, double-factorial table MAX_DFAC, accuracy at least the
default radial threshold 1e-15), any grid 0..16 in N steps and every order an engine can initialise
(lmax ≤ 3·MAX_L + TAYLOR_CUT), in exact arithmetic: the series loop of `tabulate` stops after at most 35 terms, so it never
leaves `F[order+1]`, and every index `2l+2m+1` it forms is inside `DFAC[MAX_DFAC]`. -/
theorem tabulate_indices_in_table (N : ℕ) (hN : 0 < N) (i : ℕ) (hi : i ≤ N) (acc : ℝ)
    (hacc : (Gen.RADIAL_THRESH_DEFAULT_num : ℝ) / Gen.RADIAL_THRESH_DEFAULT_den ≤ acc)
    (lmax : ℕ) (hl : lmax ≤ 3 * Gen.LIBECPINT_MAX_L + Gen.TAYLOR_CUT) :
    rowTerms Gen.MAX_DFAC N Gen.BESSEL_ORDER acc i ≤ 35 ∧
    rowTerms Gen.MAX_DFAC N Gen.BESSEL_ORDER acc i ≤ Gen.BESSEL_ORDER ∧
    2 * lmax + 2 * rowTerms Gen.MAX_DFAC N Gen.BESSEL_ORDER acc i ≤ Gen.MAX_DFAC := by
  obtain ⟨hz0, hz16⟩ := node_mem N i hN hi
  obtain ⟨-, -, -, -, hfirst⟩ := rowLoop_spec Gen.MAX_DFAC N Gen.BESSEL_ORDER acc i (by decide)
  generalize rowTerms Gen.MAX_DFAC N Gen.BESSEL_ORDER acc i = J at hfirst ⊢
  generalize (i : ℝ) / ((N : ℝ) / 16) = z at hz0 hz16 hfirst
  -- the term of index 34 is below 1e-15 on the whole grid, so the loop has stopped by J = 35
  have h34 : Real.exp (-z) * (z * z / 2) ^ 34 / ((34 ! : ℕ) : ℝ) / (dfacTable (α := ℝ) Gen.MAX_DFAC)[2 * 34 + 1]! < acc := by
    rw [dfacTable_spec _ (2 * 34 + 1) (by decide) (by decide)]
    have he : Real.exp (-z) ≤ 1 := Real.exp_le_one_iff.mpr (neg_nonpos.2 hz0)
    have hzz0 : 0 ≤ z * z / 2 := div_nonneg (mul_nonneg hz0 hz0) zero_le_two
    have hzz : z * z / 2 ≤ 128 := by linarith only [mul_le_mul hz16 hz16 hz0 (by norm_num : (0 : ℝ) ≤ 16)]
    calc Real.exp (-z) * (z * z / 2) ^ 34 / ((34 ! : ℕ) : ℝ) / (((2 * 34 + 1)‼ : ℕ) : ℝ)
        ≤ 1 * (128 : ℝ) ^ 34 / ((34 ! : ℕ) : ℝ) / (((2 * 34 + 1)‼ : ℕ) : ℝ) :=
          div_le_div_of_nonneg_right (div_le_div_of_nonneg_right
            (mul_le_mul he (pow_le_pow_left₀ hzz0 hzz 34) (pow_nonneg hzz0 34) zero_le_one) (Nat.cast_nonneg _)) (Nat.cast_nonneg _)
      _ < 1 / 10 ^ 15 := by
          rw [one_mul]
          exact ratio34_small
      _ ≤ acc := by
          refine le_trans (le_of_eq ?_) hacc
          simp only [Gen.RADIAL_THRESH_DEFAULT_num, Gen.RADIAL_THRESH_DEFAULT_den]
          norm_num
  have hJ : J ≤ 35 := by
    by_contra hc
    exact hfirst 35 (by norm_num) (not_le.1 hc) h34
  refine ⟨hJ, ?_, ?_⟩
  · simp only [Gen.BESSEL_ORDER]
    omega
  · simp only [Gen.MAX_DFAC, Gen.LIBECPINT_MAX_L, Gen.TAYLOR_CUT] at hl ⊢
    omega

/-- `tabulateRow_spec_J` for the table sizes of the working tree, where the loop stops inside the tables -/
theorem stored_row_spec (N : ℕ) (hN : 0 < N) (i : ℕ) (hi : i ≤ N) (acc : ℝ)
    (hacc : (Gen.RADIAL_THRESH_DEFAULT_num : ℝ) / Gen.RADIAL_THRESH_DEFAULT_den ≤ acc)
    (lmax : ℕ) (hlmax : lmax ≤ 3 * Gen.LIBECPINT_MAX_L + Gen.TAYLOR_CUT) :
    ∃ j, Kpartial (j + 1) 0 ((i : ℝ) / ((N : ℝ) / 16)) - Kpartial j 0 ((i : ℝ) / ((N : ℝ) / 16)) < acc ∧
      ∀ l ≤ lmax, (tabulateRow (dfacTable (α := ℝ) Gen.MAX_DFAC) N Gen.BESSEL_ORDER lmax acc i)[l]!
        = Kpartial (j + 1) l ((i : ℝ) / ((N : ℝ) / 16)) := by
  obtain ⟨-, hJo, hidx⟩ := tabulate_indices_in_table N hN i hi acc hacc lmax hlmax
  obtain ⟨hJ1, -, -, hspec⟩ := tabulateRow_spec_J Gen.MAX_DFAC N Gen.BESSEL_ORDER lmax acc i (by decide)
  obtain ⟨j, hj⟩ := Nat.exists_eq_add_of_le' hJ1
  rw [hj] at hJo hidx hspec
  exact ⟨j, (hspec hidx).1 hJo, (hspec hidx).2⟩

theorem derivNext_get (width top : ℕ) (prev : Array ℝ) (l : ℕ) (hl : l < width) :
    (derivNext width top prev)[l]! =
      if l = 0 then prev[1]! - prev[0]! else if l ≤ top then recStep l prev[l - 1]! prev[l + 1]! prev[l]! else 0 :=
  ArrayLemmas.getBang_map_range width _ l hl

theorem derivRows_foldl (lMax tc : ℕ) (krow : Array ℝ) (m : ℕ) (hm : m ≤ tc) :
    let d := (List.range m).foldl (fun (d : Array (Array ℝ)) i =>
      d.push (derivNext (lMax + tc + 1) (lMax + tc - (i + 1)) d[i]!)) #[krow]
    d.size = m + 1 ∧ ∀ n ≤ m, ∀ l, l + n ≤ lMax + tc → (d[n]!)[l]! = dRec (fun l => krow[l]!) n l := by
  induction m with
  | zero =>
    refine ⟨rfl, fun n hn l _ => ?_⟩
    rw [Nat.le_zero.1 hn]
    rfl
  | succ m ih =>
    obtain ⟨hs, hv⟩ := ih (Nat.le_of_succ_le hm)
    simp only [List.range_succ, List.foldl_append, List.foldl_cons, List.foldl_nil]
    generalize (List.range m).foldl (fun (d : Array (Array ℝ)) i =>
      d.push (derivNext (lMax + tc + 1) (lMax + tc - (i + 1)) d[i]!)) #[krow] = d at hs hv ⊢
    refine ⟨by rw [Array.size_push, hs], fun n hn l hl => ?_⟩
    rcases Nat.lt_succ_iff_lt_or_eq.1 (Nat.lt_succ_of_le hn) with h | rfl
    · rw [ArrayLemmas.getBang_push_lt _ _ _ (hs ▸ h)]
      exact hv n (Nat.lt_succ_iff.1 h) l hl
    · -- the row pushed last: `derivNext` of row m, whose entries l − 1, l, l + 1 are below the top
      have hrow := hv m le_rfl
      rw [getBang_push_size hs, derivNext_get _ _ _ _ (by omega)]
      rcases l with _ | l
      · rw [if_pos rfl, hrow 1 (by omega), hrow 0 (by omega)]
        rfl
      · rw [if_neg (Nat.succ_ne_zero l), if_pos (by omega), Nat.add_sub_cancel, hrow l (by omega), hrow (l + 2) (by omega),
          hrow (l + 1) (by omega)]
        rfl

/-- `dK[ix][n][l]` is the recurrence applied n times to the row `K[ix][·]`, for every n ≤ TAYLOR_CUT and every l the Taylor
evaluation can read (l + n ≤ lMax + TAYLOR_CUT) -/
theorem derivRows_spec (lMax tc : ℕ) (krow : Array ℝ) :
    (derivRows lMax tc krow).size = tc + 1 ∧
    ∀ n ≤ tc, ∀ l, l + n ≤ lMax + tc → ((derivRows lMax tc krow)[n]!)[l]! = dRec (fun l => krow[l]!) n l :=
  derivRows_foldl lMax tc krow tc (le_refl _)

end Ecpint.C14c
