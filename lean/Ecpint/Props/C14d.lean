/-
C14d — the tables of `BesselFunction` and the real function K_l(z) = e^{-z} i_l(z) (C14b) put together:
what `tabulate` stores (C14c) converges to K_l(z) as the number of series terms grows, never exceeds it, and the
derivative tables built from an exact row are the true derivatives K_l^(n)(z), so the Taylor evaluation of the table regime is
the Taylor polynomial of the real function.
-/
import Ecpint.Props.C14b
import Ecpint.Props.C14c

namespace Ecpint.C14d
open Ecpint.Bessel Ecpint.BesselLemmas Ecpint.C14b Ecpint.C14c
open scoped Nat

theorem Kpartial_eq (J l : ℕ) (z : ℝ) : Kpartial J l z = Real.exp (-z) * ∑ m ∈ Finset.range J, iTerm l m z := rfl

/-- what `tabulate` stores converges to K_l(z) as the number of series terms grows … -/
theorem Kpartial_tendsto (l : ℕ) (z : ℝ) :
    Filter.Tendsto (fun J => Kpartial J l z) Filter.atTop (nhds (K l z)) := by
  have h := (iTerm_summable l z).hasSum.tendsto_sum_nat
  exact (h.const_mul (Real.exp (-z)))

/-- … from below, for arguments on the grid (z ≥ 0) -/
theorem Kpartial_le (J l : ℕ) (z : ℝ) (hz : 0 ≤ z) : Kpartial J l z ≤ K l z := by
  rw [Kpartial_eq]
  unfold K sphI
  apply mul_le_mul_of_nonneg_left _ (Real.exp_pos _).le
  apply (iTerm_summable l z).sum_le_tsum
  intro m _
  unfold iTerm
  positivity

theorem Kpartial_step (j l : ℕ) (z : ℝ) : Kpartial (j + 1) l z - Kpartial j l z = Real.exp (-z) * iTerm l j z := by
  rw [Kpartial_eq, Kpartial_eq, Finset.sum_range_succ]
  ring

/-- `dK[ix][n][l]`, built by the model's `derivRows` from a row that holds K_l(z), IS the n-th derivative of K_l at z, for every
entry the Taylor evaluation reads (n ≤ TAYLOR_CUT, l + n ≤ lMax + TAYLOR_CUT) -/
theorem derivRows_iteratedDeriv (lMax tc : ℕ) (krow : Array ℝ) (z : ℝ) (hk : ∀ l ≤ lMax + tc, krow[l]! = K l z)
    (n l : ℕ) (hn : n ≤ tc) (hl : l + n ≤ lMax + tc) :
    ((derivRows lMax tc krow)[n]!)[l]! = iteratedDeriv n (K l) z := by
  rw [(derivRows_spec lMax tc krow).2 n hn l hl, iteratedDeriv_K]
  exact dRec_congr _ _ (lMax + tc) hk n l hl

/-- hence the table regime evaluates the Taylor polynomial of K_l about the grid node:
`taylorAll tc dz (dK[ix][·][l]) = Σ_{n ≤ tc} dz^n/n! · K_l^(n)(z_ix)` -/
theorem taylor_is_taylor_polynomial (lMax tc : ℕ) (krow : Array ℝ) (z dz : ℝ) (hk : ∀ l ≤ lMax + tc, krow[l]! = K l z)
    (l : ℕ) (hl : l ≤ lMax) :
    taylorAll tc dz (fun n => ((derivRows lMax tc krow)[n]!)[l]!)
      = ∑ n ∈ Finset.range (tc + 1), dz ^ n / (n ! : ℝ) * iteratedDeriv n (K l) z := by
  rw [Ecpint.C14.taylorAll_closed]
  apply Finset.sum_congr rfl
  intro n hn
  have hn' : n ≤ tc := Nat.lt_succ_iff.1 (Finset.mem_range.1 hn)
  rw [derivRows_iteratedDeriv lMax tc krow z hk n l hn' (by omega)]

end Ecpint.C14d
