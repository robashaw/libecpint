/-
C14e — accuracy of the table regime of `BesselFunction` in exact arithmetic: bounds on K_l(z) = e^{-z} i_l(z) and all its
derivatives on z ≥ 0 (and, away from 0, a Lipschitz constant below 1, which the node shortcut of C14f needs), the truncation
error of the stored rows (a geometric tail), and the error of the Taylor evaluation about a grid node from a row that is only
close to the exact one (Lagrange remainder plus the row error amplified by the derivative recurrence) — with grid step, Taylor
order and row error as variables, then for the constants as shipped.
-/
import Ecpint.Props.C14d
import Mathlib.Analysis.Calculus.Taylor

namespace Ecpint.C14e
open Ecpint.Bessel Ecpint.C14b Ecpint.BesselReal Ecpint.BesselLemmas
open scoped Nat

/-! ## 0 ≤ K_l ≤ 1 on z ≥ 0, K_l ≤ 1 − a/2 on z ≥ a: the three-term recurrence carries a bound c ≥ 1/6 of K_0 to all orders -/

theorem iTerm_nonneg (l j : ℕ) (z : ℝ) (hz : 0 ≤ z) : 0 ≤ iTerm l j z := by
  unfold iTerm
  positivity

theorem sphI_nonneg (l : ℕ) (z : ℝ) (hz : 0 ≤ z) : 0 ≤ sphI l z :=
  tsum_nonneg (fun j => iTerm_nonneg l j z hz)

theorem K_nonneg (l : ℕ) (z : ℝ) (hz : 0 ≤ z) : 0 ≤ K l z :=
  mul_nonneg (Real.exp_pos _).le (sphI_nonneg l z hz)

theorem K_zero_formula (z : ℝ) (hz : 0 < z) : K 0 z = (1 - Real.exp (-2 * z)) / (2 * z) := by
  rw [K_large 0 z hz, largeAll_zero, largeAll_zero]
  field_simp
  ring

theorem K_zero_mul (z : ℝ) (hz : 0 < z) : z * K 0 z ≤ 1 / 2 := by
  rw [K_zero_formula z hz]
  have := Real.exp_pos (-2 * z)
  have e : z * ((1 - Real.exp (-2 * z)) / (2 * z)) = (1 - Real.exp (-2 * z)) / 2 := by
    field_simp
  rw [e]
  linarith only [this]

theorem K_anti2 (l : ℕ) (z : ℝ) (hz : 0 < z) : K (l + 2) z ≤ K l z := by
  rw [K_rec l z hz.ne']
  have h1 := K_nonneg (l + 1) z hz.le
  have h2 : 0 ≤ (2 * (l : ℝ) + 3) / z := by positivity
  linarith only [mul_nonneg h2 h1]

theorem K_one_le (z : ℝ) (hz : 0 < z) : K 1 z ≤ 1 / 6 := by
  have h := K_rec 0 z hz.ne'
  have h2 := K_nonneg 2 z hz.le
  have h0 := K_zero_mul z hz
  simp only [Nat.cast_zero, mul_zero, zero_add] at h
  have e : 3 / z * K 1 z ≤ K 0 z := by linarith only [h, h2]
  rw [div_mul_eq_mul_div, div_le_iff₀ hz] at e
  linarith only [e, h0]

theorem K_zero_le_lin (z : ℝ) (hz0 : 0 < z) (h1 : z ≤ 1) : K 0 z ≤ 1 - z / 2 := by
  rw [K_zero_formula z hz0, div_le_iff₀ (by positivity)]
  have h3 : 1 - z ≤ Real.exp (-z) := by
    have := Real.add_one_le_exp (-z)
    linarith only [this]
  have h5 : (1 - z) ^ 2 ≤ Real.exp (-z) ^ 2 := pow_le_pow_left₀ (by linarith only [h1]) h3 2
  rw [exp_neg_two_mul, ← Real.exp_neg]
  linarith only [h5]

theorem K_zero_le_half (z : ℝ) (h1 : 1 ≤ z) : K 0 z ≤ 1 / 2 := by
  have hz0 : 0 < z := by linarith only [h1]
  have := K_zero_mul z hz0
  have h2 := K_nonneg 0 z hz0.le
  linarith only [this, mul_le_mul_of_nonneg_right h1 h2]

theorem K_zero_le_of (a : ℝ) (ha1 : a ≤ 1) (z : ℝ) (hz0 : 0 < z) (hz : a ≤ z) : K 0 z ≤ 1 - a / 2 := by
  rcases le_total 1 z with h1 | h1
  · linarith only [K_zero_le_half z h1, ha1]
  · linarith only [K_zero_le_lin z hz0 h1, hz]

theorem K_le_of_zero (c : ℝ) (hc : 1 / 6 ≤ c) (z : ℝ) (hz0 : 0 < z) (h0 : K 0 z ≤ c) (l : ℕ) : K l z ≤ c := by
  induction l using Nat.twoStepInduction with
  | zero => exact h0
  | one => linarith only [K_one_le z hz0, hc]
  | more l ih0 _ => exact le_trans (K_anti2 l z hz0) ih0

theorem K_le_one (l : ℕ) (z : ℝ) (hz : 0 ≤ z) : K l z ≤ 1 := by
  rcases hz.eq_or_lt with rfl | hz0
  · rw [K_at_zero]
    split_ifs
    · exact le_rfl
    · exact zero_le_one
  · have h0 := K_zero_le_of 0 zero_le_one z hz0 hz0.le
    rw [zero_div, sub_zero] at h0
    exact K_le_of_zero 1 (by norm_num) z hz0 h0 l

theorem sphI_le_exp (l : ℕ) (z : ℝ) (hz : 0 ≤ z) : sphI l z ≤ Real.exp z := by
  have h := mul_le_mul_of_nonneg_left (K_le_one l z hz) (Real.exp_pos z).le
  rwa [K, ← mul_assoc, ← Real.exp_add, add_neg_cancel, Real.exp_zero, one_mul, mul_one] at h

/-! ## the derivative recurrence at most doubles a bound, so |K_l^(n)(z)| ≤ 2^n on z ≥ 0 -/

/-- `recStep l a b c + c` is the weighted mean (l·a + (l+1)·b)/(2l+1) of a and b, so it lies wherever both do -/
theorem recStep_add_mem (l : ℕ) (a b c lo hi : ℝ) (ha : lo ≤ a) (ha' : a ≤ hi) (hb : lo ≤ b) (hb' : b ≤ hi) :
    lo ≤ recStep l a b c + c ∧ recStep l a b c + c ≤ hi := by
  have hL : (0 : ℝ) ≤ (l : ℝ) := Nat.cast_nonneg _
  have hL1 : (0 : ℝ) ≤ (l : ℝ) + 1 := by linarith only [hL]
  have hd : (0 : ℝ) < 2 * (l : ℝ) + 1 := by positivity
  rw [Ecpint.C14.recStep_spec, sub_add_cancel, le_div_iff₀ hd, div_le_iff₀ hd]
  constructor
  · linarith only [mul_le_mul_of_nonneg_left ha hL, mul_le_mul_of_nonneg_left hb hL1]
  · linarith only [mul_le_mul_of_nonneg_left ha' hL, mul_le_mul_of_nonneg_left hb' hL1]

theorem recStep_abs_le (l : ℕ) (a b c M : ℝ) (ha : |a| ≤ M) (hb : |b| ≤ M) (hc : |c| ≤ M) :
    |recStep l a b c| ≤ 2 * M := by
  obtain ⟨h1, h2⟩ := recStep_add_mem l a b c (-M) M (neg_le_of_abs_le ha) (le_of_abs_le ha) (neg_le_of_abs_le hb)
    (le_of_abs_le hb)
  rw [abs_le] at hc ⊢
  exact ⟨by linarith only [h1, hc.2], by linarith only [h2, hc.1]⟩

theorem recStep_abs_le_of_mem (l : ℕ) (a b c M : ℝ) (ha : 0 ≤ a) (ha' : a ≤ M) (hb : 0 ≤ b) (hb' : b ≤ M) (hc : 0 ≤ c)
    (hc' : c ≤ M) : |recStep l a b c| ≤ M := by
  obtain ⟨h1, h2⟩ := recStep_add_mem l a b c 0 M ha ha' hb hb'
  rw [abs_le]
  exact ⟨by linarith only [h1, hc'], by linarith only [h2, hc]⟩

theorem dRec_abs_le (k : ℕ → ℝ) (M : ℝ) (top : ℕ) (hk : ∀ l ≤ top, |k l| ≤ M) :
    ∀ n l, l + n ≤ top → |dRec k n l| ≤ 2 ^ n * M := by
  intro n
  induction n with
  | zero =>
    intro l hl
    rw [pow_zero, one_mul]
    exact hk l (by omega)
  | succ n ih =>
    intro l hl
    rw [pow_succ', mul_assoc]
    rcases l with _ | l
    · simp only [dRec]
      have := abs_sub (dRec k n 1) (dRec k n 0)
      linarith only [this, ih 1 (by omega), ih 0 (by omega)]
    · simp only [dRec]
      exact recStep_abs_le (l + 1) _ _ _ _ (ih l (by omega)) (ih (l + 2) (by omega)) (ih (l + 1) (by omega))

theorem iteratedDeriv_K_abs_le (n l : ℕ) (z : ℝ) (hz : 0 ≤ z) : |iteratedDeriv n (K l) z| ≤ 2 ^ n := by
  rw [iteratedDeriv_K, ← mul_one (2 ^ n)]
  refine dRec_abs_le _ 1 (l + n) (fun l' _ => ?_) n l le_rfl
  rw [abs_of_nonneg (K_nonneg l' z hz)]
  exact K_le_one l' z hz

theorem dRec_perturb (k : ℕ → ℝ) (z ε : ℝ) (top : ℕ) (hk : ∀ l ≤ top, |k l - K l z| ≤ ε) (n l : ℕ) (hl : l + n ≤ top) :
    |dRec k n l - dRec (fun l => K l z) n l| ≤ 2 ^ n * ε := by
  rw [dRec_sub]
  exact dRec_abs_le _ ε top hk n l hl

/-- for a Lipschitz constant below 1 away from 0 (on all of z ≥ 0 the first derivative is only bounded by 1) -/
theorem dRec_one_abs_le_of (c : ℝ) (hc : 1 / 6 ≤ c) (z : ℝ) (hz0 : 0 < z) (h0 : K 0 z ≤ c) (l : ℕ) :
    |dRec (fun l => K l z) 1 l| ≤ c := by
  have hle := K_le_of_zero c hc z hz0 h0
  have hnn := fun l => K_nonneg l z hz0.le
  cases l with
  | zero =>
    simp only [dRec]
    rw [abs_sub_comm]
    exact abs_sub_le_of_nonneg_of_le (hnn 0) (hle 0) (hnn 1) (hle 1)
  | succ l =>
    simp only [dRec]
    exact recStep_abs_le_of_mem _ _ _ _ c (hnn _) (hle _) (hnn _) (hle _) (hnn _) (hle _)

theorem K_lipschitz_Ici (a : ℝ) (ha : 0 < a) (ha1 : a ≤ 1) (l : ℕ) (x y : ℝ) (hx : a ≤ x) (hy : a ≤ y) :
    |K l y - K l x| ≤ (1 - a / 2) * |y - x| := by
  have h := Convex.norm_image_sub_le_of_norm_hasDerivWithin_le (f := K l) (f' := fun z => dRec (fun l => K l z) 1 l)
    (C := 1 - a / 2) (s := Set.Ici a) (x := x) (y := y)
    (fun t _ => (K_hasDerivAt_dRec l t).hasDerivWithinAt)
    (fun t ht => by
      have ht0 : 0 < t := lt_of_lt_of_le ha ht
      rw [Real.norm_eq_abs]
      exact dRec_one_abs_le_of (1 - a / 2) (by linarith only [ha1]) t ht0 (K_zero_le_of a ha1 t ht0 ht) l)
    (convex_Ici _) hx hy
  simpa [Real.norm_eq_abs] using h

theorem K_contDiff (l : ℕ) (n : ℕ∞) : ContDiff ℝ n (K l) := by
  apply contDiff_of_differentiable_iteratedDeriv
  intro m _
  rw [iteratedDeriv_K_fun]
  exact fun z => (dRec_K_hasDerivAt m l z).differentiableAt

theorem taylor_remainder (l tc : ℕ) (z0 dz : ℝ) (hz0 : 0 ≤ z0) (hz : 0 ≤ z0 + dz) :
    |K l (z0 + dz) - ∑ n ∈ Finset.range (tc + 1), dz ^ n / (n ! : ℝ) * iteratedDeriv n (K l) z0|
      ≤ 2 ^ (tc + 1) * |dz| ^ (tc + 1) / ((tc + 1)! : ℝ) := by
  rcases eq_or_ne dz 0 with h0 | h0
  · subst h0
    rw [Finset.sum_range_succ', add_zero]
    simp only [pow_succ, mul_zero, zero_div, zero_mul, Finset.sum_const_zero, pow_zero, Nat.factorial_zero, Nat.cast_one,
      div_one, one_mul, iteratedDeriv_zero, zero_add, sub_self, abs_zero, le_refl]
  · have hx : z0 ≠ z0 + dz := fun h => h0 (by linarith only [h])
    have hcd : ContDiff ℝ ((tc + 1 : ℕ) : ℕ∞) (K l) := K_contDiff l _
    obtain ⟨x', hx', hrem⟩ := taylor_mean_remainder_lagrange_iteratedDeriv (f := K l) (n := tc) hx
      (by exact_mod_cast hcd.contDiffOn)
    have hx'0 : 0 ≤ x' := (le_min hz0 hz).trans hx'.1.le
    have hT : taylorWithinEval (K l) tc (Set.uIcc z0 (z0 + dz)) z0 (z0 + dz)
        = ∑ n ∈ Finset.range (tc + 1), dz ^ n / (n ! : ℝ) * iteratedDeriv n (K l) z0 := by
      rw [taylor_within_apply]
      apply Finset.sum_congr rfl
      intro n _
      rw [iteratedDerivWithin_eq_iteratedDeriv (uniqueDiffOn_uIcc hx) ((K_contDiff l n).contDiffAt) Set.left_mem_uIcc]
      rw [smul_eq_mul, add_sub_cancel_left]
      ring
    rw [← hT, hrem, add_sub_cancel_left, abs_div, abs_mul, abs_pow, abs_of_pos (by positivity : (0 : ℝ) < ((tc + 1)! : ℝ))]
    apply div_le_div_of_nonneg_right _ (by positivity)
    exact mul_le_mul_of_nonneg_right (iteratedDeriv_K_abs_le (tc + 1) l x' hx'0) (by positivity)

/-! ## truncation error of the stored rows -/

open Ecpint.C14c Ecpint.C14d

theorem iTerm_le_iTerm_zero (l m : ℕ) (z : ℝ) (hz : 0 ≤ z) (hzm : z ≤ 2 * (m : ℝ) + 3) : iTerm l m z ≤ iTerm 0 m z := by
  induction l with
  | zero => exact le_refl _
  | succ l ih =>
    rw [iTerm_succ_l]
    refine le_trans ?_ ih
    have hl : (0 : ℝ) ≤ (l : ℝ) := Nat.cast_nonneg l
    have hq : z / (2 * (l : ℝ) + 2 * (m : ℝ) + 3) ≤ 1 := by
      rw [div_le_one (by positivity)]
      linarith only [hzm, hl]
    exact mul_le_of_le_one_right (iTerm_nonneg l m z hz) hq

/-- `hq`: the ratio q_j = (z²/2)/((j+1)(2j+3)) of consecutive l = 0 terms is at most ρ at index j; q_m is decreasing in m -/
theorem iTerm_geometric (ρ : ℝ) (hρ : 0 ≤ ρ) (j : ℕ) (z : ℝ) (hz : 0 ≤ z)
    (hq : z ^ 2 / 2 ≤ ρ * (((j : ℝ) + 1) * (2 * (j : ℝ) + 3))) (k : ℕ) :
    iTerm 0 (j + k) z ≤ iTerm 0 j z * ρ ^ k := by
  induction k with
  | zero => simp
  | succ k ih =>
    rw [← add_assoc, iTerm_succ_m, pow_succ ρ k, ← mul_assoc]
    have hjk : (j : ℝ) ≤ ((j + k : ℕ) : ℝ) := Nat.cast_le.2 (Nat.le_add_right j k)
    have hden : (0 : ℝ) < (((j + k : ℕ) : ℝ) + 1) * (2 * ((j + k : ℕ) : ℝ) + 3) := by positivity
    have hr : (z ^ 2 / 2) / ((((j + k : ℕ) : ℝ) + 1) * (2 * ((j + k : ℕ) : ℝ) + 3)) ≤ ρ := by
      rw [div_le_iff₀ hden]
      refine le_trans hq (mul_le_mul_of_nonneg_left ?_ hρ)
      gcongr
    exact mul_le_mul ih hr (div_nonneg (by positivity) hden.le)
      (mul_nonneg (iTerm_nonneg 0 j z hz) (pow_nonneg hρ k))

theorem K_sub_Kpartial (j l : ℕ) (z : ℝ) :
    K l z - Kpartial (j + 1) l z = Real.exp (-z) * ∑' m, iTerm l (m + (j + 1)) z := by
  have hsum := (iTerm_summable l z).sum_add_tsum_nat_add (j + 1)
  rw [Kpartial_eq, show K l z = Real.exp (-z) * ∑' m, iTerm l m z from rfl, ← hsum]
  ring

/-- for EVERY order l the neglected tail is at most ρ/(1−ρ) times the last l = 0 term that was included: raising l only lowers
the terms, and the l = 0 terms decay geometrically from j on -/
theorem truncation_le_geometric (ρ : ℝ) (hρ : 0 ≤ ρ) (hρ1 : ρ < 1) (j l : ℕ) (z : ℝ) (hz : 0 ≤ z)
    (hq : z ^ 2 / 2 ≤ ρ * (((j : ℝ) + 1) * (2 * (j : ℝ) + 3))) :
    K l z - Kpartial (j + 1) l z ≤ ρ / (1 - ρ) * (Kpartial (j + 1) 0 z - Kpartial j 0 z) := by
  have hj : (0 : ℝ) ≤ (j : ℝ) := Nat.cast_nonneg j
  have hz3 : z ≤ 2 * (j : ℝ) + 3 := by
    have : ρ * (((j : ℝ) + 1) * (2 * (j : ℝ) + 3)) ≤ 1 * (((j : ℝ) + 1) * (2 * (j : ℝ) + 3)) :=
      mul_le_mul_of_nonneg_right hρ1.le (by positivity)
    refine (pow_le_pow_iff_left₀ hz (by positivity) two_ne_zero).1 ?_
    linarith only [this, hq, hj]
  rw [K_sub_Kpartial, Kpartial_step, mul_left_comm]
  apply mul_le_mul_of_nonneg_left _ (Real.exp_pos _).le
  have hgeo : HasSum (fun k => iTerm 0 j z * ρ * ρ ^ k) (ρ / (1 - ρ) * iTerm 0 j z) := by
    have := (hasSum_geometric_of_lt_one hρ hρ1).mul_left (iTerm 0 j z * ρ)
    rwa [show iTerm 0 j z * ρ * (1 - ρ)⁻¹ = ρ / (1 - ρ) * iTerm 0 j z by rw [div_eq_mul_inv]; ring] at this
  have htail : Summable (fun m => iTerm l (m + (j + 1)) z) :=
    (summable_nat_add_iff (f := fun m => iTerm l m z) (j + 1)).2 (iTerm_summable l z)
  refine hasSum_le (fun k => ?_) htail.hasSum hgeo
  have h1 : iTerm l (k + (j + 1)) z ≤ iTerm 0 (k + (j + 1)) z := by
    apply iTerm_le_iTerm_zero l _ z hz
    push_cast
    linarith only [hz3, (Nat.cast_nonneg k : (0 : ℝ) ≤ k)]
  have h2 := iTerm_geometric ρ hρ j z hz hq (k + 1)
  rw [show j + (k + 1) = k + (j + 1) by omega, pow_succ', ← mul_assoc] at h2
  exact le_trans h1 h2

theorem exp_neg_16_gt : (1 : ℝ) / 10 ^ 7 < Real.exp (-16) := by
  have h : Real.exp 16 < 10 ^ 7 := by
    have h1 := Real.exp_one_lt_d9
    calc Real.exp 16 = (Real.exp 1) ^ 16 := by
          rw [← Real.exp_nat_mul]
          norm_num
      _ < (2.7182818286 : ℝ) ^ 16 := pow_lt_pow_left₀ h1 (Real.exp_pos 1).le (by norm_num)
      _ < 10 ^ 7 := by norm_num
  rw [Real.exp_neg, one_div]
  exact (inv_lt_inv₀ (by positivity) (Real.exp_pos 16)).2 h

theorem stop_on_decreasing_side (j : ℕ) (z acc : ℝ) (hz0 : 0 ≤ z) (hz16 : z ≤ 16) (hacc : acc ≤ 1 / 10 ^ 7)
    (hstop : Real.exp (-z) * iTerm 0 j z < acc) : z ^ 2 ≤ ((j : ℝ) + 1) * (2 * (j : ℝ) + 3) := by
  by_contra hc
  rw [not_le] at hc
  have hz2 : z ^ 2 ≤ 16 ^ 2 := pow_le_pow_left₀ hz0 hz16 2
  have hj : j ≤ 10 := by
    by_contra h
    have h11 : (11 : ℝ) ≤ (j : ℝ) := by exact_mod_cast (by omega : 11 ≤ j)
    nlinarith only [h11, hc, hz2]
  have h1 : (1 : ℝ) ≤ iTerm 0 j z := by
    unfold iTerm
    simp only [pow_zero, one_mul, Nat.mul_zero, Nat.zero_add]
    rw [div_div, le_div_iff₀ (mul_pos (fac_pos j) (dfac_pos _)), one_mul]
    have hpeak : ((j ! : ℕ) : ℝ) * (((2 * j + 1)‼ : ℕ) : ℝ) ≤ ((((j : ℝ) + 1) * (2 * (j : ℝ) + 3)) / 2) ^ j := by
      interval_cases j <;> norm_num [Nat.factorial, Nat.doubleFactorial]
    refine le_trans hpeak ?_
    apply pow_le_pow_left₀ (by positivity)
    linarith only [hc]
  have h2 : Real.exp (-16) ≤ Real.exp (-z) := Real.exp_le_exp.mpr (by linarith only [hz16])
  have h4 : Real.exp (-z) * 1 ≤ Real.exp (-z) * iTerm 0 j z := mul_le_mul_of_nonneg_left h1 (Real.exp_pos _).le
  linarith only [h2, h4, exp_neg_16_gt, hstop, hacc]

/-- `acc ≤ 1e-7` is below e^{-16}, so on 0 ≤ z ≤ 16 the stopping test of the series loop fires on the decreasing side of the
series (ratio ≤ 1/2) and the neglected tail is below acc for every order l -/
theorem truncation_error (j l : ℕ) (z acc : ℝ) (hz0 : 0 ≤ z) (hz16 : z ≤ 16) (hacc : acc ≤ 1 / 10 ^ 7)
    (hstop : Kpartial (j + 1) 0 z - Kpartial j 0 z < acc) : K l z - Kpartial (j + 1) l z < acc := by
  have hq := stop_on_decreasing_side j z acc hz0 hz16 hacc (by rw [← Kpartial_step]; exact hstop)
  have h := truncation_le_geometric (1 / 2) (by norm_num) (by norm_num) j l z hz0 (by linarith only [hq])
  rw [show (1 / 2 : ℝ) / (1 - 1 / 2) = 1 by norm_num, one_mul] at h
  exact lt_of_le_of_lt h hstop

/-- at a node z ≤ 1/4 the ratio is at most 1/96 -/
theorem truncation_error_small (j l : ℕ) (z acc : ℝ) (hz0 : 0 ≤ z) (hz : z ≤ 1 / 4)
    (hstop : Kpartial (j + 1) 0 z - Kpartial j 0 z < acc) : K l z - Kpartial (j + 1) l z < acc / 48 := by
  have hj : (0 : ℝ) ≤ (j : ℝ) := Nat.cast_nonneg j
  have hjj := mul_nonneg hj hj
  have hz2 : z ^ 2 ≤ (1 / 4) ^ 2 := pow_le_pow_left₀ hz0 hz 2
  have hq : z ^ 2 / 2 ≤ 1 / 96 * (((j : ℝ) + 1) * (2 * (j : ℝ) + 3)) := by linarith only [hz2, hj, hjj]
  have h := truncation_le_geometric (1 / 96) (by norm_num) (by norm_num) j l z hz0 hq
  rw [show (1 / 96 : ℝ) / (1 - 1 / 96) = 1 / 95 by norm_num] at h
  have h0 : 0 ≤ Kpartial (j + 1) 0 z - Kpartial j 0 z := by
    rw [Kpartial_step]
    exact mul_nonneg (Real.exp_pos _).le (iTerm_nonneg 0 j z hz0)
  linarith only [h, h0, hstop]

/-- the stored table rows for the table sizes of the working tree (series order BESSEL_ORDER, double-factorial table MAX_DFAC),
any grid 0..16 in N steps, any accuracy between the default radial threshold 1e-15 and 1e-7, any order an engine can
initialise, in exact arithmetic: every entry K[i][l] is below K_l(z_i) by less than the accuracy -/
theorem stored_row_error (N : ℕ) (hN : 0 < N) (i : ℕ) (hi : i ≤ N) (acc : ℝ)
    (hacc : (Gen.RADIAL_THRESH_DEFAULT_num : ℝ) / Gen.RADIAL_THRESH_DEFAULT_den ≤ acc) (hacc7 : acc ≤ 1 / 10 ^ 7)
    (lmax : ℕ) (hlmax : lmax ≤ 3 * Gen.LIBECPINT_MAX_L + Gen.TAYLOR_CUT) (l : ℕ) (hl : l ≤ lmax) :
    0 ≤ K l ((i : ℝ) / ((N : ℝ) / 16))
        - (tabulateRow (dfacTable (α := ℝ) Gen.MAX_DFAC) N Gen.BESSEL_ORDER lmax acc i)[l]! ∧
      K l ((i : ℝ) / ((N : ℝ) / 16))
        - (tabulateRow (dfacTable (α := ℝ) Gen.MAX_DFAC) N Gen.BESSEL_ORDER lmax acc i)[l]! < acc := by
  obtain ⟨j, hstop, hrow⟩ := stored_row_spec N hN i hi acc hacc lmax hlmax
  obtain ⟨hz0, hz16⟩ := node_mem N i hN hi
  rw [hrow l hl]
  exact ⟨sub_nonneg.mpr (Kpartial_le (j + 1) l _ hz0), truncation_error j l _ acc hz0 hz16 hacc7 hstop⟩

/-- … and by less than 1/48 of it at the nodes z_i ≤ 1/4 -/
theorem stored_row_error_small (N : ℕ) (hN : 0 < N) (i : ℕ) (hi : i ≤ N) (hz4 : (i : ℝ) / ((N : ℝ) / 16) ≤ 1 / 4) (acc : ℝ)
    (hacc : (Gen.RADIAL_THRESH_DEFAULT_num : ℝ) / Gen.RADIAL_THRESH_DEFAULT_den ≤ acc)
    (lmax : ℕ) (hlmax : lmax ≤ 3 * Gen.LIBECPINT_MAX_L + Gen.TAYLOR_CUT) (l : ℕ) (hl : l ≤ lmax) :
    K l ((i : ℝ) / ((N : ℝ) / 16))
      - (tabulateRow (dfacTable (α := ℝ) Gen.MAX_DFAC) N Gen.BESSEL_ORDER lmax acc i)[l]! < acc / 48 := by
  obtain ⟨j, hstop, hrow⟩ := stored_row_spec N hN i hi acc hacc lmax hlmax
  rw [hrow l hl]
  exact truncation_error_small j l _ acc (node_mem N i hN hi).1 hz4 hstop

/-! ## the Taylor evaluation about a node, from an exact row and from the rows as stored -/

/-- Lagrange remainder with |K^(tc+1)| ≤ 2^(tc+1), plus the row error ε amplified by 2^n in the n-th derivative row; the sum is a
partial sum of e^{2h} -/
theorem taylor_table_error (lMax tc : ℕ) (krow : Array ℝ) (z0 dz h ε : ℝ) (hz0 : 0 ≤ z0) (hz : 0 ≤ z0 + dz)
    (hdz : |dz| ≤ h) (hk : ∀ l ≤ lMax + tc, |krow[l]! - K l z0| ≤ ε) (l : ℕ) (hl : l ≤ lMax) :
    |K l (z0 + dz) - taylorAll tc dz (fun n => ((derivRows lMax tc krow)[n]!)[l]!)|
      ≤ (2 * h) ^ (tc + 1) / ((tc + 1)! : ℝ) + (∑ n ∈ Finset.range (tc + 1), (2 * h) ^ n / (n ! : ℝ)) * ε := by
  have hpow : ∀ n, |dz| ^ n ≤ h ^ n := fun n => pow_le_pow_left₀ (abs_nonneg _) hdz n
  -- through the Taylor polynomial of K_l about z0
  have h1 : |K l (z0 + dz) - ∑ n ∈ Finset.range (tc + 1), dz ^ n / (n ! : ℝ) * iteratedDeriv n (K l) z0|
      ≤ (2 * h) ^ (tc + 1) / ((tc + 1)! : ℝ) := by
    refine le_trans (taylor_remainder l tc z0 dz hz0 hz) ?_
    rw [mul_pow]
    exact div_le_div_of_nonneg_right (mul_le_mul_of_nonneg_left (hpow _) (by positivity)) (by positivity)
  have h2 : |∑ n ∈ Finset.range (tc + 1), dz ^ n / (n ! : ℝ) * iteratedDeriv n (K l) z0
        - ∑ n ∈ Finset.range (tc + 1), dz ^ n / (n ! : ℝ) * ((derivRows lMax tc krow)[n]!)[l]!|
      ≤ (∑ n ∈ Finset.range (tc + 1), (2 * h) ^ n / (n ! : ℝ)) * ε := by
    rw [← Finset.sum_sub_distrib, Finset.sum_mul]
    refine le_trans (Finset.abs_sum_le_sum_abs _ _) (Finset.sum_le_sum fun n hn => ?_)
    have hn' : n ≤ tc := Nat.lt_succ_iff.1 (Finset.mem_range.1 hn)
    have hp := dRec_perturb (fun l => krow[l]!) z0 ε (lMax + tc) hk n l (by omega)
    rw [(derivRows_spec lMax tc krow).2 n hn' l (by omega), iteratedDeriv_K, ← mul_sub, abs_mul, abs_div, abs_pow,
      abs_of_pos (by positivity : (0 : ℝ) < (n ! : ℝ)), abs_sub_comm]
    calc |dz| ^ n / (n ! : ℝ) * |dRec (fun l => krow[l]!) n l - dRec (fun l => K l z0) n l|
        ≤ h ^ n / (n ! : ℝ) * (2 ^ n * ε) :=
          mul_le_mul (div_le_div_of_nonneg_right (hpow n) (by positivity)) hp (abs_nonneg _)
            (div_nonneg (pow_nonneg (le_trans (abs_nonneg _) hdz) n) (by positivity))
      _ = (2 * h) ^ n / (n ! : ℝ) * ε := by
          rw [mul_pow]
          ring
  rw [Ecpint.C14.taylorAll_closed]
  exact (abs_sub_le _ _ _).trans (add_le_add h1 h2)

theorem table_regime_error_stored_of (N : ℕ) (hN : 0 < N) (lMax : ℕ) (hlMax : lMax ≤ 3 * Gen.LIBECPINT_MAX_L) (i : ℕ)
    (hi : i ≤ N) (acc : ℝ) (hacc : (Gen.RADIAL_THRESH_DEFAULT_num : ℝ) / Gen.RADIAL_THRESH_DEFAULT_den ≤ acc)
    (hacc7 : acc ≤ 1 / 10 ^ 7) (dz h : ℝ) (hdz : |dz| ≤ h) (hz : 0 ≤ (i : ℝ) / ((N : ℝ) / 16) + dz) (l : ℕ) (hl : l ≤ lMax) :
    |K l ((i : ℝ) / ((N : ℝ) / 16) + dz)
        - taylorAll Gen.TAYLOR_CUT dz (fun n => ((derivRows lMax Gen.TAYLOR_CUT
            (tabulateRow (dfacTable (α := ℝ) Gen.MAX_DFAC) N Gen.BESSEL_ORDER (lMax + Gen.TAYLOR_CUT) acc i))[n]!)[l]!)|
      ≤ (2 * h) ^ (Gen.TAYLOR_CUT + 1) / ((Gen.TAYLOR_CUT + 1)! : ℝ)
        + (∑ n ∈ Finset.range (Gen.TAYLOR_CUT + 1), (2 * h) ^ n / (n ! : ℝ)) * acc := by
  refine taylor_table_error lMax Gen.TAYLOR_CUT _ _ dz h acc (node_mem N i hN hi).1 hz hdz (fun l' hl' => ?_) l hl
  have h := stored_row_error N hN i hi acc hacc hacc7 (lMax + Gen.TAYLOR_CUT) (by omega) l' hl'
  rw [abs_sub_comm, abs_of_nonneg h.1]
  exact h.2.le

/-- both budgets for the grid and Taylor order as shipped (h = 8/N, N = 1600, T = 5): remainder ≈ 1.4e-15, amplification ≈ e^{0.01} -/
theorem shipped_budget :
    (2 * (8 / (Gen.BESSEL_N : ℝ))) ^ (Gen.TAYLOR_CUT + 1) / ((Gen.TAYLOR_CUT + 1)! : ℝ) < 1 / 10 ^ 14 ∧
    ∑ n ∈ Finset.range (Gen.TAYLOR_CUT + 1), (2 * (8 / (Gen.BESSEL_N : ℝ))) ^ n / (n ! : ℝ) ≤ 102 / 100 := by
  simp only [Gen.TAYLOR_CUT, Gen.BESSEL_N, Finset.sum_range_succ, Finset.sum_range_zero]
  norm_num [Nat.factorial]

/-- the Taylor evaluation about a node holding the exact row, against the function, for any step |dz| ≤ 8/N -/
theorem table_regime_error (lMax : ℕ) (krow : Array ℝ) (z0 dz : ℝ) (hz0 : 0 ≤ z0) (hz : 0 ≤ z0 + dz)
    (hdz : |dz| ≤ 8 / (Gen.BESSEL_N : ℝ)) (hk : ∀ l ≤ lMax + Gen.TAYLOR_CUT, krow[l]! = K l z0) (l : ℕ) (hl : l ≤ lMax) :
    |K l (z0 + dz) - Ecpint.Bessel.taylorAll Gen.TAYLOR_CUT dz (fun n => ((Ecpint.Bessel.derivRows lMax Gen.TAYLOR_CUT krow)[n]!)[l]!)|
      < 1 / 10 ^ 14 := by
  have h := taylor_table_error lMax Gen.TAYLOR_CUT krow z0 dz _ 0 hz0 hz hdz
    (fun l' hl' => by rw [hk l' hl', sub_self, abs_zero]) l hl
  rw [mul_zero, add_zero] at h
  exact lt_of_le_of_lt h shipped_budget.1

/-- the same for the single-order evaluator -/
theorem table_regime_error_one (lMax : ℕ) (krow : Array ℝ) (z0 dz : ℝ) (hz0 : 0 ≤ z0) (hz : 0 ≤ z0 + dz)
    (hdz : |dz| ≤ 8 / (Gen.BESSEL_N : ℝ)) (hk : ∀ l ≤ lMax + Gen.TAYLOR_CUT, krow[l]! = K l z0) (l : ℕ) (hl : l ≤ lMax) :
    |K l (z0 + dz) - Ecpint.Bessel.taylorOne Gen.TAYLOR_CUT dz (fun n => ((Ecpint.Bessel.derivRows lMax Gen.TAYLOR_CUT krow)[n]!)[l]!)|
      < 1 / 10 ^ 14 := by
  rw [← Ecpint.C14.taylorAll_eq_taylorOne]
  exact table_regime_error lMax krow z0 dz hz0 hz hdz hk l hl

theorem BESSEL_N_pos : 0 < Gen.BESSEL_N := by decide

/-- half a grid spacing, as `table_row_in_range` has it and as 8/N -/
theorem half_spacing (N : ℝ) : 1 / (2 * (N / 16)) = 8 / N := by
  ring

/-- with the node and step the evaluators actually use: for 0 ≤ z ≤ 16, ix = ⌊z·(N/16) + ½⌋ is a row of the table, and the
Taylor evaluation about the node z_ix = ix/(N/16), from an exact row, is within 1e-14 of K_l(z) -/
theorem table_regime_error_at (lMax : ℕ) (krow : Array ℝ) (z : ℝ) (h0 : 0 ≤ z) (h16 : z ≤ 16)
    (hk : ∀ l ≤ lMax + Gen.TAYLOR_CUT,
      krow[l]! = K l ((⌊z * ((Gen.BESSEL_N : ℝ) / 16) + 1 / 2⌋₊ : ℝ) / ((Gen.BESSEL_N : ℝ) / 16))) (l : ℕ) (hl : l ≤ lMax) :
    ⌊z * ((Gen.BESSEL_N : ℝ) / 16) + 1 / 2⌋₊ ≤ Gen.BESSEL_N ∧
    |K l z - Ecpint.Bessel.taylorAll Gen.TAYLOR_CUT
        (z - (⌊z * ((Gen.BESSEL_N : ℝ) / 16) + 1 / 2⌋₊ : ℝ) / ((Gen.BESSEL_N : ℝ) / 16))
        (fun n => ((Ecpint.Bessel.derivRows lMax Gen.TAYLOR_CUT krow)[n]!)[l]!)| < 1 / 10 ^ 14 := by
  obtain ⟨hix, hdz⟩ := Ecpint.C14.table_row_in_range (F := ℝ) Gen.BESSEL_N BESSEL_N_pos z h0 h16
  rw [half_spacing] at hdz
  refine ⟨hix, ?_⟩
  have h := table_regime_error lMax krow _ _ (node_mem Gen.BESSEL_N _ BESSEL_N_pos hix).1
    (by rw [add_sub_cancel]; exact h0) hdz hk l hl
  rwa [add_sub_cancel] at h

/-- the Taylor evaluation of the table regime, from the row and derivative tables that `tabulate` actually stores, constants as
shipped, about any grid node z_i with any step |dz| ≤ 8/N: within 1e-14 + 1.02·acc of K_l(z_i + dz), for every order
l ≤ lMax ≤ 3·MAX_L -/
theorem table_regime_error_stored (lMax : ℕ) (hlMax : lMax ≤ 3 * Gen.LIBECPINT_MAX_L) (i : ℕ) (hi : i ≤ Gen.BESSEL_N) (acc : ℝ)
    (hacc : (Gen.RADIAL_THRESH_DEFAULT_num : ℝ) / Gen.RADIAL_THRESH_DEFAULT_den ≤ acc) (hacc7 : acc ≤ 1 / 10 ^ 7)
    (dz : ℝ) (hdz : |dz| ≤ 8 / (Gen.BESSEL_N : ℝ)) (hz : 0 ≤ (i : ℝ) / ((Gen.BESSEL_N : ℝ) / 16) + dz) (l : ℕ) (hl : l ≤ lMax) :
    let krow := tabulateRow (dfacTable (α := ℝ) Gen.MAX_DFAC) Gen.BESSEL_N Gen.BESSEL_ORDER (lMax + Gen.TAYLOR_CUT) acc i
    |K l ((i : ℝ) / ((Gen.BESSEL_N : ℝ) / 16) + dz)
        - taylorAll Gen.TAYLOR_CUT dz (fun n => ((derivRows lMax Gen.TAYLOR_CUT krow)[n]!)[l]!)|
      < 1 / 10 ^ 14 + 102 / 100 * acc := by
  intro krow
  have hacc0 : 0 ≤ acc := by
    refine le_trans ?_ hacc
    simp only [Gen.RADIAL_THRESH_DEFAULT_num, Gen.RADIAL_THRESH_DEFAULT_den]
    norm_num
  refine lt_of_le_of_lt
    (table_regime_error_stored_of Gen.BESSEL_N BESSEL_N_pos lMax hlMax i hi acc hacc hacc7 dz _ hdz hz l hl) ?_
  exact add_lt_add_of_lt_of_le shipped_budget.1 (mul_le_mul_of_nonneg_right shipped_budget.2 hacc0)

/-- the same for the single-order evaluator -/
theorem table_regime_error_stored_one (lMax : ℕ) (hlMax : lMax ≤ 3 * Gen.LIBECPINT_MAX_L) (i : ℕ) (hi : i ≤ Gen.BESSEL_N) (acc : ℝ)
    (hacc : (Gen.RADIAL_THRESH_DEFAULT_num : ℝ) / Gen.RADIAL_THRESH_DEFAULT_den ≤ acc) (hacc7 : acc ≤ 1 / 10 ^ 7)
    (dz : ℝ) (hdz : |dz| ≤ 8 / (Gen.BESSEL_N : ℝ)) (hz : 0 ≤ (i : ℝ) / ((Gen.BESSEL_N : ℝ) / 16) + dz) (l : ℕ) (hl : l ≤ lMax) :
    let krow := tabulateRow (dfacTable (α := ℝ) Gen.MAX_DFAC) Gen.BESSEL_N Gen.BESSEL_ORDER (lMax + Gen.TAYLOR_CUT) acc i
    |K l ((i : ℝ) / ((Gen.BESSEL_N : ℝ) / 16) + dz)
        - taylorOne Gen.TAYLOR_CUT dz (fun n => ((derivRows lMax Gen.TAYLOR_CUT krow)[n]!)[l]!)|
      < 1 / 10 ^ 14 + 102 / 100 * acc := by
  intro krow
  rw [← Ecpint.C14.taylorAll_eq_taylorOne]
  exact table_regime_error_stored lMax hlMax i hi acc hacc hacc7 dz hdz hz l hl

end Ecpint.C14e
