/-
C14f — both evaluators of `BesselFunction`, end to end, in exact arithmetic (Model/Bessel.lean: `build`, `calcAll`, `calcOne`,
`upperBound` over ℝ, constants as shipped: grid 0..16 in BESSEL_N steps, TAYLOR_CUT, BESSEL_ORDER, MAX_DFAC, SMALL).

For the table `build` makes (series accuracy 1e-15 ≤ acc ≤ 1e-13, lMax ≤ 3·MAX_L) and EVERY real z, each entry l ≤ maxL ≤ lMax that
`calculate(z, maxL, values)` writes and the value of `calculate(z, L)`, L ≤ lMax, are within 1e-12 of K_l(max z 0)
(`calcAll_error`, `calcOne_error`), hence within 2e-12 of each other (`evaluators_agree`); `upper_bound(z, L)` is the stored
(truncated-series) value of K_min(L,lMax) at the node at or below z (node 1 at least if L > 0) and NOT an upper bound of K_L(z)
(`upperBound_not_upper`).
The delicate branch is the `|dz| < 1e-12` shortcut of `calcAll`, which needs the Lipschitz constants of C14e (K_l' is close to −1
next to 0) and, at the nodes up to 1/4, a truncation error 48 times below `acc`.  The single-order evaluator and the Taylor branch
are bounded for any table size N, the shortcut for the shipped one.
-/
import Ecpint.Props.C14e

namespace Ecpint.C14f
open Ecpint.Bessel Ecpint.BesselLemmas Ecpint.C14 Ecpint.C14b Ecpint.C14c Ecpint.C14e Ecpint.BesselReal
open scoped Nat

/-! ## regime dispatch and what the table holds -/

theorem calcAll_nonpos (T : Table ℝ) (small z : ℝ) (maxL : ℕ) (init : Array ℝ) (h : z ≤ 0) :
    calcAll T small z maxL init = setRange init maxL fun l => if l = 0 then 1 else 0 := by
  unfold calcAll
  rw [regime_nonpos small z (not_lt.mpr h)]

theorem calcAll_small (T : Table ℝ) (small z : ℝ) (maxL : ℕ) (init : Array ℝ) (h : 0 < z) (h2 : z < small) :
    calcAll T small z maxL init = setRange init maxL fun l => smallAll z l := by
  unfold calcAll
  rw [regime_small small z h h2]
  simp only
  congr 1
  funext l
  split_ifs with h0
  · subst h0
    rfl
  · rfl

/-- `0.5/z` as the model forms it -/
theorem half_div (z : ℝ) : (1 : ℝ) / ((2 : ℕ) : ℝ) / z = 1 / (2 * z) := by
  rw [div_div, Nat.cast_ofNat]

theorem calcAll_large (T : Table ℝ) (small z : ℝ) (maxL : ℕ) (init : Array ℝ) (h : 0 < z) (h2 : small ≤ z) (h3 : 16 < z) :
    calcAll T small z maxL init = setRange init maxL fun l => largeAll (1 / (2 * z)) l := by
  unfold calcAll
  rw [regime_large small z h (not_lt.mpr h2) (by rwa [Nat.cast_ofNat])]
  simp only [half_div]
  congr 1
  funext l
  split_ifs with h0
  · subst h0
    rw [largeAll_zero]
  · rfl

/-- the row the table regime uses -/
noncomputable def tableIx (T : Table ℝ) (z : ℝ) : ℕ := ⌊z * T.scale + 1 / 2⌋₊

theorem calcAll_table (T : Table ℝ) (small z : ℝ) (maxL : ℕ) (init : Array ℝ) (h : 0 < z) (h2 : small ≤ z) (h3 : z ≤ 16) :
    calcAll T small z maxL init =
      if |z - (tableIx T z : ℝ) / T.scale| < 1 / 10 ^ 12 then setRange init maxL fun l => (T.K[tableIx T z]!)[l]!
      else setRange init maxL fun l =>
        taylorAll Gen.TAYLOR_CUT (z - (tableIx T z : ℝ) / T.scale) fun n => ((T.dK[tableIx T z]!)[n]!)[l]! := by
  unfold calcAll
  rw [regime_table small z h (not_lt.mpr h2) (by rwa [Nat.cast_ofNat, not_lt])]
  have e : ((1000000000000 : ℕ) : ℝ) = 10 ^ 12 := by norm_num
  simp only [num_floorNat, num_abs, tableIx, e, Nat.cast_ofNat]
  -- what is left differs in the instance that decides `<` only
  congr

/-! the single-order evaluator, with the large-argument loop and the Taylor sum in the all-orders form
(`largeAll_eq_largeOne`, `taylorAll_eq_taylorOne`) -/

theorem calcOne_nonpos (T : Table ℝ) (small z : ℝ) (L : ℕ) (h : z ≤ 0) :
    calcOne T small z L = if L = 0 then 1 else 0 := by
  unfold calcOne
  rw [regime_nonpos small z (not_lt.mpr h)]

theorem calcOne_small (T : Table ℝ) (small z : ℝ) (L : ℕ) (h : 0 < z) (h2 : z < small) :
    calcOne T small z L = smallOne z L := by
  unfold calcOne
  rw [regime_small small z h h2]

theorem calcOne_large (T : Table ℝ) (small z : ℝ) (L : ℕ) (h : 0 < z) (h2 : small ≤ z) (h3 : 16 < z) :
    calcOne T small z L = largeAll (1 / (2 * z)) L := by
  unfold calcOne
  rw [regime_large small z h (not_lt.mpr h2) (by rwa [Nat.cast_ofNat])]
  simp only [half_div]
  rw [largeAll_eq_largeOne]

theorem calcOne_table (T : Table ℝ) (small z : ℝ) (L : ℕ) (h : 0 < z) (h2 : small ≤ z) (h3 : z ≤ 16) :
    calcOne T small z L =
      taylorAll Gen.TAYLOR_CUT (z - (tableIx T z : ℝ) / T.scale) fun n => ((T.dK[tableIx T z]!)[n]!)[L]! := by
  unfold calcOne
  rw [regime_table small z h (not_lt.mpr h2) (by rwa [Nat.cast_ofNat, not_lt]), taylorAll_eq_taylorOne]
  simp only [num_floorNat, tableIx, Nat.cast_ofNat]

theorem build_scale (lMax N order : ℕ) (acc : ℝ) : (build lMax N order acc).scale = (N : ℝ) / 16 := by
  show (N : ℝ) / ((16 : ℕ) : ℝ) = (N : ℝ) / 16
  norm_num

theorem build_K_get (lMax N order : ℕ) (acc : ℝ) (ix : ℕ) (hix : ix ≤ N) :
    (build lMax N order acc).K[ix]! =
      tabulateRow (dfacTable (α := ℝ) Gen.MAX_DFAC) N order (lMax + Gen.TAYLOR_CUT) acc ix := by
  exact ArrayLemmas.getBang_map_range (N + 1) _ ix (Nat.lt_succ_of_le hix)

theorem build_dK_get (lMax N order : ℕ) (acc : ℝ) (ix : ℕ) (hix : ix ≤ N) :
    (build lMax N order acc).dK[ix]! =
      derivRows lMax Gen.TAYLOR_CUT
        (tabulateRow (dfacTable (α := ℝ) Gen.MAX_DFAC) N order (lMax + Gen.TAYLOR_CUT) acc ix) := by
  exact (congrArg (·[ix]!) (Array.map_map ..)).trans (ArrayLemmas.getBang_map_range (N + 1) _ ix (Nat.lt_succ_of_le hix))

/-! ## the error of each branch -/

theorem acc_lower (acc : ℝ) (hacc : 1 / 10 ^ 15 ≤ acc) :
    (Gen.RADIAL_THRESH_DEFAULT_num : ℝ) / Gen.RADIAL_THRESH_DEFAULT_den ≤ acc := by
  simp only [Gen.RADIAL_THRESH_DEFAULT_num, Gen.RADIAL_THRESH_DEFAULT_den]
  norm_num at hacc ⊢
  exact hacc

theorem tableIx_facts (N : ℕ) (hN : 0 < N) (lMax order : ℕ) (acc z : ℝ) (h0 : 0 ≤ z) (h16 : z ≤ 16) :
    tableIx (build lMax N order acc) z ≤ N ∧
    |z - (tableIx (build lMax N order acc) z : ℝ) / ((N : ℝ) / 16)| ≤ 8 / (N : ℝ) := by
  unfold tableIx
  rw [build_scale]
  obtain ⟨h1, h2⟩ := table_row_in_range (F := ℝ) N hN z h0 h16
  exact ⟨h1, h2.trans_eq (half_spacing _)⟩

/-- table regime, Taylor branch, any table size N: Lagrange remainder at half a spacing h = 8/N plus the series accuracy
amplified by Σ (2h)^n/n! ≤ e^{2h} -/
theorem table_far_error_of (N : ℕ) (hN : 0 < N) (lMax : ℕ) (hlMax : lMax ≤ 3 * Gen.LIBECPINT_MAX_L) (acc : ℝ)
    (hacc : 1 / 10 ^ 15 ≤ acc) (hacc7 : acc ≤ 1 / 10 ^ 7) (z : ℝ) (h0 : 0 ≤ z) (h16 : z ≤ 16) (l : ℕ) (hl : l ≤ lMax) :
    |K l z - taylorAll Gen.TAYLOR_CUT
        (z - (tableIx (build lMax N Gen.BESSEL_ORDER acc) z : ℝ) / (build lMax N Gen.BESSEL_ORDER acc).scale)
        (fun n => (((build lMax N Gen.BESSEL_ORDER acc).dK[tableIx (build lMax N Gen.BESSEL_ORDER acc) z]!)[n]!)[l]!)|
      ≤ (2 * (8 / (N : ℝ))) ^ (Gen.TAYLOR_CUT + 1) / ((Gen.TAYLOR_CUT + 1)! : ℝ)
        + (∑ n ∈ Finset.range (Gen.TAYLOR_CUT + 1), (2 * (8 / (N : ℝ))) ^ n / (n ! : ℝ)) * acc := by
  obtain ⟨hix, hdz⟩ := tableIx_facts N hN lMax Gen.BESSEL_ORDER acc z h0 h16
  rw [build_dK_get lMax _ _ acc _ hix, build_scale]
  have h := table_regime_error_stored_of N hN lMax hlMax _ hix acc (acc_lower acc hacc) hacc7 _ _ hdz
    (by rw [add_sub_cancel]; exact h0) l hl
  rwa [add_sub_cancel] at h

/-! the `|dz| < 1e-12` shortcut returns the stored row of the node.  Its error is |K_l(z) − K_l(z_ix)| ≤ sup|K_l'|·|dz| plus the
truncation error of the row; sup|K_l'| is close to 1 at the first nodes (K_0'(0) = −1), so there the generic bound
"truncation < acc" is not enough for 1e-12 when acc = 1e-13: at those nodes the series has converged far below acc -/

theorem near_node_error (a ε δ : ℝ) (ha : 0 < a) (ha1 : a ≤ 1) (l : ℕ) (zn z stored : ℝ) (hzn : a ≤ zn) (hz : a ≤ z)
    (hnear : |z - zn| < δ) (h0 : 0 ≤ K l zn - stored) (h1 : K l zn - stored < ε) :
    |K l z - stored| < (1 - a / 2) * δ + ε := by
  have h := abs_sub_le (K l z) (K l zn) stored
  rw [abs_of_nonneg h0] at h
  have h3 : (1 - a / 2) * |z - zn| ≤ (1 - a / 2) * δ :=
    mul_le_mul_of_nonneg_left hnear.le (sub_nonneg.2 ((half_le_self ha.le).trans ha1))
  exact h.trans_lt (add_lt_add_of_le_of_lt ((K_lipschitz_Ici a ha ha1 l zn z hzn hz).trans h3) h1)

/-- up to zn = 1/4 the Lipschitz constant is only 1 − 0.0099/2 and the stored value has to be within acc/48; beyond,
1 − 0.24/2 and acc do -/
theorem near_node_error_lt (l : ℕ) (δ acc zn z stored : ℝ) (hδ : δ ≤ 1 / 10000) (hacc : acc ≤ δ / 10) (hzn : 1 / 100 ≤ zn)
    (hnear : |z - zn| < δ) (h0 : 0 ≤ K l zn - stored) (h1 : K l zn - stored < acc)
    (h48 : zn ≤ 1 / 4 → K l zn - stored < acc / 48) : |K l z - stored| < δ := by
  have hlo := (abs_lt.mp hnear).1
  have hδ0 : 0 < δ := lt_of_le_of_lt (abs_nonneg _) hnear
  rcases le_or_gt zn (1 / 4) with h4 | h4
  · have h := near_node_error (99 / 10000) (acc / 48) δ (by norm_num) (by norm_num) l zn z stored
      (le_trans (by norm_num) hzn) (by linarith only [hzn, hlo, hδ]) hnear h0 (h48 h4)
    linarith only [h, hacc, hδ0]
  · have h := near_node_error (24 / 100) acc δ (by norm_num) (by norm_num) l zn z stored
      (le_trans (by norm_num) h4.le) (by linarith only [h4, hlo, hδ]) hnear h0 h1
    linarith only [h, hacc, hδ0]

theorem table_near_error (lMax : ℕ) (hlMax : lMax ≤ 3 * Gen.LIBECPINT_MAX_L) (acc : ℝ) (hacc : 1 / 10 ^ 15 ≤ acc)
    (hacc13 : acc ≤ 1 / 10 ^ 13) (z : ℝ) (hz : 1 / 10 ^ 7 ≤ z) (h16 : z ≤ 16) (l : ℕ) (hl : l ≤ lMax)
    (hnear : |z - (tableIx (build lMax Gen.BESSEL_N Gen.BESSEL_ORDER acc) z : ℝ)
      / (build lMax Gen.BESSEL_N Gen.BESSEL_ORDER acc).scale| < 1 / 10 ^ 12) :
    |K l z - ((build lMax Gen.BESSEL_N Gen.BESSEL_ORDER acc).K[tableIx (build lMax Gen.BESSEL_N Gen.BESSEL_ORDER acc) z]!)[l]!|
      < 1 / 10 ^ 12 := by
  have hacc7 : acc ≤ 1 / 10 ^ 7 := le_trans hacc13 (by norm_num)
  have h0 : 0 ≤ z := le_trans (by norm_num) hz
  obtain ⟨hix, -⟩ := tableIx_facts Gen.BESSEL_N BESSEL_N_pos lMax Gen.BESSEL_ORDER acc z h0 h16
  rw [build_scale] at hnear
  rw [build_K_get lMax _ _ acc _ hix]
  generalize tableIx (build lMax Gen.BESSEL_N Gen.BESSEL_ORDER acc) z = ix at hix hnear ⊢
  have hlmax : lMax + Gen.TAYLOR_CUT ≤ 3 * Gen.LIBECPINT_MAX_L + Gen.TAYLOR_CUT := Nat.add_le_add_right hlMax _
  have hl' : l ≤ lMax + Gen.TAYLOR_CUT := Nat.le_add_right_of_le hl
  have hrow := stored_row_error Gen.BESSEL_N BESSEL_N_pos ix hix acc (acc_lower acc hacc) hacc7 _ hlmax l hl'
  -- the node is not 0 (z ≥ 1e-7 is not within 1e-12 of 0), so it is at least the first one, 1/100
  have hix1 : 1 ≤ ix := by
    refine Nat.one_le_iff_ne_zero.2 ?_
    rintro rfl
    rw [Nat.cast_zero, zero_div, sub_zero] at hnear
    linarith only [(abs_lt.mp hnear).2, hz]
  have hzn : (1 : ℝ) / 100 ≤ (ix : ℝ) / ((Gen.BESSEL_N : ℝ) / 16) := by
    have e : (Gen.BESSEL_N : ℝ) / 16 = 100 := by
      simp only [Gen.BESSEL_N]
      norm_num
    rw [e]
    exact div_le_div_of_nonneg_right (by exact_mod_cast hix1) (by norm_num)
  refine near_node_error_lt l _ acc _ z _ (by norm_num) (by linarith only [hacc13]) hzn hnear hrow.1 hrow.2 fun h4 => ?_
  exact stored_row_error_small Gen.BESSEL_N BESSEL_N_pos ix hix h4 acc (acc_lower acc hacc) _ hlmax l hl'

/-! small arguments: the single-order evaluator's `(1 − z)(z/(2L+1))^L` is NOT the small-z expansion of K_L for L ≥ 2, but below
SMALL both it and K_L are far below the tolerance -/

theorem smallAll_mem (z : ℝ) (hz0 : 0 ≤ z) (hz1 : z ≤ 1) (L : ℕ) : 0 ≤ smallAll z L ∧ smallAll z L ≤ z ^ L := by
  rw [smallAll_closed]
  have h1z : 0 ≤ 1 - z := sub_nonneg.2 hz1
  have hn : 0 ≤ (1 - z) * z ^ L := mul_nonneg h1z (pow_nonneg hz0 L)
  refine ⟨div_nonneg hn (dfac_pos _).le, le_trans (div_le_self hn (dfac_ge_one _)) ?_⟩
  exact mul_le_of_le_one_left (pow_nonneg hz0 L) (by linarith only [hz0])

theorem smallOne_mem (z : ℝ) (hz0 : 0 ≤ z) (hz1 : z ≤ 1) (L : ℕ) : 0 ≤ smallOne z L ∧ smallOne z L ≤ z ^ L := by
  rw [smallOne_closed]
  have h1z : 0 ≤ 1 - z := sub_nonneg.2 hz1
  have hd : (1 : ℝ) ≤ 2 * (L : ℝ) + 1 := by linarith only [(Nat.cast_nonneg L : (0 : ℝ) ≤ L)]
  have hq0 : 0 ≤ z / (2 * (L : ℝ) + 1) := div_nonneg hz0 (by linarith only [hd])
  refine ⟨mul_nonneg h1z (pow_nonneg hq0 L), ?_⟩
  calc (1 - z) * (z / (2 * (L : ℝ) + 1)) ^ L ≤ 1 * z ^ L :=
        mul_le_mul (by linarith only [hz0]) (pow_le_pow_left₀ hq0 (div_le_self hz0 hd) L) (pow_nonneg hq0 L) zero_le_one
    _ = z ^ L := one_mul _

theorem smallOne_eq_smallAll (z : ℝ) (L : ℕ) (hL : L < 2) : smallOne z L = smallAll z L := by
  rw [smallOne_closed, smallAll_closed]
  interval_cases L
  · norm_num
  · norm_num
    ring

/-- for L ≥ 2 both small-argument formulas lie in [0, z^L] -/
theorem smallOne_error (s : ℝ) (hs1 : s ≤ 1) (L : ℕ) (z : ℝ) (hz0 : 0 < z) (hzs : z < s) :
    |K L z - smallOne z L| < 3 * s ^ 2 := by
  have hA := smallAll_error s hs1 L z hz0 hzs
  have hs0 : 0 ≤ s ^ 2 := sq_nonneg s
  rcases Nat.lt_or_ge L 2 with hL | hL
  · rw [smallOne_eq_smallAll z L hL]
    linarith only [hA, hs0]
  · obtain ⟨k, rfl⟩ : ∃ k, L = k + 2 := ⟨L - 2, by omega⟩
    have hz1 : z ≤ 1 := by linarith only [hzs, hs1]
    obtain ⟨a0, a1⟩ := smallAll_mem z hz0.le hz1 (k + 2)
    obtain ⟨b0, b1⟩ := smallOne_mem z hz0.le hz1 (k + 2)
    have h2 : |smallAll z (k + 2) - smallOne z (k + 2)| ≤ z ^ (k + 2) := abs_sub_le_of_nonneg_of_le a0 a1 b0 b1
    have h3 := abs_sub_le (K (k + 2) z) (smallAll z (k + 2)) (smallOne z (k + 2))
    linarith only [hA, h2, h3, pow_lt_sq s z hz0.le hzs hs1 k]

/-! ## the evaluators, end to end -/

/-- the threshold of the small-argument branch as the library has it -/
noncomputable def SMALL : ℝ := (Gen.SMALL_num : ℝ) / (Gen.SMALL_den : ℝ)

theorem SMALL_eq : SMALL = 1 / 10 ^ 7 := by
  simp only [SMALL, Gen.SMALL_num, Gen.SMALL_den]
  norm_num

/-- SINGLE-ORDER EVALUATOR `calculate(z, L)`, end to end, for any table size N and any small-argument threshold ≤ 1e-7: within
the larger of 31 e^{-32} < 5e-13 (large arguments) and the table-regime bound (Lagrange remainder at half a spacing + amplified
series accuracy) of K_L(max z 0), every real z, L ≤ lMax -/
theorem calcOne_error_of (N : ℕ) (hN : 0 < N) (small : ℝ) (hsmall : small ≤ 1 / 10 ^ 7) (lMax : ℕ)
    (hlMax : lMax ≤ 3 * Gen.LIBECPINT_MAX_L) (acc : ℝ) (hacc : 1 / 10 ^ 15 ≤ acc) (hacc7 : acc ≤ 1 / 10 ^ 7) (z : ℝ) (L : ℕ)
    (hL : L ≤ lMax) :
    |calcOne (build lMax N Gen.BESSEL_ORDER acc) small z L - K L (max z 0)|
      ≤ max (5 / 10 ^ 13) ((2 * (8 / (N : ℝ))) ^ (Gen.TAYLOR_CUT + 1) / ((Gen.TAYLOR_CUT + 1)! : ℝ)
        + (∑ n ∈ Finset.range (Gen.TAYLOR_CUT + 1), (2 * (8 / (N : ℝ))) ^ n / (n ! : ℝ)) * acc) := by
  have hL15 : L ≤ 15 := by
    simp only [Gen.LIBECPINT_MAX_L] at hlMax
    omega
  rcases le_or_gt z 0 with hz | hz
  · rw [calcOne_nonpos _ _ _ _ hz, max_eq_right hz, K_at_zero, sub_self, abs_zero]
    exact le_max_of_le_left (by norm_num)
  rw [max_eq_left hz.le, abs_sub_comm]
  rcases lt_or_ge z small with hs | hs
  · rw [calcOne_small _ _ _ _ hz hs]
    refine le_max_of_le_left (le_trans (smallOne_error (1 / 10 ^ 7) (by norm_num) L z hz (lt_of_lt_of_le hs hsmall)).le ?_)
    norm_num
  rcases lt_or_ge 16 z with h16 | h16
  · rw [calcOne_large _ _ _ _ hz hs h16]
    exact le_max_of_le_left (K_large_error_sharp L hL15 z h16).le
  · rw [calcOne_table _ _ _ _ hz hs h16]
    exact le_max_of_le_right (table_far_error_of N hN lMax hlMax acc hacc hacc7 z hz.le h16 L hL)

/-- … for the shipped table and threshold: within 5e-13 + 1.02·acc -/
theorem calcOne_error_gen (lMax : ℕ) (hlMax : lMax ≤ 3 * Gen.LIBECPINT_MAX_L) (acc : ℝ) (hacc : 1 / 10 ^ 15 ≤ acc)
    (hacc7 : acc ≤ 1 / 10 ^ 7) (z : ℝ) (L : ℕ) (hL : L ≤ lMax) :
    |calcOne (build lMax Gen.BESSEL_N Gen.BESSEL_ORDER acc) SMALL z L - K L (max z 0)|
      < 5 / 10 ^ 13 + 102 / 100 * acc := by
  have hacc0 : 0 < acc := lt_of_lt_of_le (by norm_num) hacc
  refine lt_of_le_of_lt (calcOne_error_of Gen.BESSEL_N BESSEL_N_pos SMALL SMALL_eq.le lMax hlMax acc hacc hacc7 z L hL)
    (max_lt (by linarith only [hacc0]) ?_)
  exact (add_lt_add_of_lt_of_le shipped_budget.1 (mul_le_mul_of_nonneg_right shipped_budget.2 hacc0.le)).trans_le
    (add_le_add (by norm_num) le_rfl)

/-- … hence within the absolute tolerance 1e-12 for acc ≤ 1e-13 -/
theorem calcOne_error (lMax : ℕ) (hlMax : lMax ≤ 3 * Gen.LIBECPINT_MAX_L) (acc : ℝ) (hacc : 1 / 10 ^ 15 ≤ acc)
    (hacc13 : acc ≤ 1 / 10 ^ 13) (z : ℝ) (L : ℕ) (hL : L ≤ lMax) :
    |calcOne (build lMax Gen.BESSEL_N Gen.BESSEL_ORDER acc) SMALL z L - K L (max z 0)| < 1 / 10 ^ 12 := by
  exact (calcOne_error_gen lMax hlMax acc hacc (le_trans hacc13 (by norm_num)) z L hL).trans_le (by linarith only [hacc13])

/-- outside the small-argument branch and the `|dz| < 1e-12` shortcut the two evaluators return the SAME real number -/
theorem evaluators_equal (T : Table ℝ) (small z : ℝ) (maxL l : ℕ) (hl : l ≤ maxL) (init : Array ℝ) (hinit : maxL < init.size)
    (hz : z ≤ 0 ∨ (small ≤ z ∧ (16 < z ∨ ¬ |z - (tableIx T z : ℝ) / T.scale| < 1 / 10 ^ 12))) :
    (calcAll T small z maxL init)[l]! = calcOne T small z l := by
  rcases hz with hz | ⟨hs, hz⟩
  · rw [calcAll_nonpos _ _ _ _ _ hz, setRange_get _ _ _ l hl hinit, calcOne_nonpos _ _ _ _ hz]
  · rcases lt_or_ge 16 z with h16 | h16
    · have h0 : 0 < z := by linarith only [h16]
      rw [calcAll_large _ _ _ _ _ h0 hs h16, setRange_get _ _ _ l hl hinit, calcOne_large _ _ _ _ h0 hs h16]
    · rcases hz with hz | hz
      · exact absurd hz (not_lt.2 h16)
      · by_cases h0 : 0 < z
        · rw [calcAll_table _ _ _ _ _ h0 hs h16, if_neg hz, setRange_get _ _ _ l hl hinit, calcOne_table _ _ _ _ h0 hs h16]
        · have h0' : z ≤ 0 := not_lt.mp h0
          rw [calcAll_nonpos _ _ _ _ _ h0', setRange_get _ _ _ l hl hinit, calcOne_nonpos _ _ _ _ h0']

/-- ALL-ORDERS EVALUATOR, end to end, exact arithmetic, constants as shipped: with the tables `build` makes (series accuracy
`acc` between 1e-15 and 1e-13 — the library passes 1e-15 —, lMax ≤ 3·MAX_L) and the small-argument threshold SMALL = 1e-7,
every entry l ≤ maxL ≤ lMax that `calculate(z, maxL, values)` writes is within 1e-12 of K_l(max z 0) = e^{-z} i_l(z) (the value
at 0 for z ≤ 0), for EVERY real z.  The worst branch is the `|dz| < 1e-12` shortcut, which returns the stored row of the node
instead of evaluating the Taylor sum (error up to ≈ 0.99e-12 next to the first nodes); all the others are below 5e-13 + 1.02·acc. -/
theorem calcAll_error (lMax : ℕ) (hlMax : lMax ≤ 3 * Gen.LIBECPINT_MAX_L) (acc : ℝ) (hacc : 1 / 10 ^ 15 ≤ acc)
    (hacc13 : acc ≤ 1 / 10 ^ 13) (z : ℝ) (maxL l : ℕ) (hl : l ≤ maxL) (hmax : maxL ≤ lMax) (init : Array ℝ)
    (hinit : maxL < init.size) :
    |(calcAll (build lMax Gen.BESSEL_N Gen.BESSEL_ORDER acc) SMALL z maxL init)[l]! - K l (max z 0)| < 1 / 10 ^ 12 := by
  -- where the two evaluators return the same number the bound is that of the single-order one; what is left is the
  -- small-argument branch and the node shortcut
  have hone := calcOne_error lMax hlMax acc hacc hacc13 z l (hl.trans hmax)
  have heq := evaluators_equal (build lMax Gen.BESSEL_N Gen.BESSEL_ORDER acc) SMALL z maxL l hl init hinit
  rcases le_or_gt z 0 with hz | hz
  · rwa [heq (Or.inl hz)]
  rcases lt_or_ge z SMALL with hs | hs
  · rw [max_eq_left hz.le, abs_sub_comm, calcAll_small _ _ _ _ _ hz hs, setRange_get _ _ _ l hl hinit]
    exact (smallAll_error (1 / 10 ^ 7) (by norm_num) l z hz (by rwa [SMALL_eq] at hs)).trans (by norm_num)
  rcases lt_or_ge 16 z with h16 | h16
  · rwa [heq (Or.inr ⟨hs, Or.inl h16⟩)]
  by_cases hnear : |z - (tableIx (build lMax Gen.BESSEL_N Gen.BESSEL_ORDER acc) z : ℝ)
      / (build lMax Gen.BESSEL_N Gen.BESSEL_ORDER acc).scale| < 1 / 10 ^ 12
  · rw [max_eq_left hz.le, abs_sub_comm, calcAll_table _ _ _ _ _ hz hs h16, if_pos hnear, setRange_get _ _ _ l hl hinit]
    exact table_near_error lMax hlMax acc hacc hacc13 z (by rwa [SMALL_eq] at hs) h16 l (hl.trans hmax) hnear
  · rwa [heq (Or.inr ⟨hs, Or.inr hnear⟩)]

/-- what `calculate(z, maxL, values)` leaves alone: the entries above maxL, and the size -/
theorem calcAll_frame (T : Table ℝ) (small z : ℝ) (maxL : ℕ) (init : Array ℝ) :
    (calcAll T small z maxL init).size = init.size ∧ ∀ l, maxL < l → (calcAll T small z maxL init)[l]! = init[l]! := by
  have key : ∀ val, (setRange init maxL val).size = init.size ∧ ∀ l, maxL < l → (setRange init maxL val)[l]! = init[l]! :=
    fun val => ⟨setRange_size _ _ _, fun l hl => setRange_get_other _ _ _ l hl⟩
  unfold calcAll
  simp only
  split
  · exact key _
  · exact key _
  · exact key _
  · split
    · exact key _
    · exact key _

/-- the two evaluators agree to 2e-12 on every order both can produce, every real z -/
theorem evaluators_agree (lMax : ℕ) (hlMax : lMax ≤ 3 * Gen.LIBECPINT_MAX_L) (acc : ℝ) (hacc : 1 / 10 ^ 15 ≤ acc)
    (hacc13 : acc ≤ 1 / 10 ^ 13) (z : ℝ) (maxL l : ℕ) (hl : l ≤ maxL) (hmax : maxL ≤ lMax) (init : Array ℝ)
    (hinit : maxL < init.size) :
    |(calcAll (build lMax Gen.BESSEL_N Gen.BESSEL_ORDER acc) SMALL z maxL init)[l]!
      - calcOne (build lMax Gen.BESSEL_N Gen.BESSEL_ORDER acc) SMALL z l| < 2 / 10 ^ 12 := by
  have h1 := calcAll_error lMax hlMax acc hacc hacc13 z maxL l hl hmax init hinit
  have h2 := calcOne_error lMax hlMax acc hacc hacc13 z l (hl.trans hmax)
  rw [abs_sub_comm] at h2
  exact (abs_sub_le _ _ _).trans_lt ((add_lt_add h1 h2).trans_eq (by norm_num))

/-! ## `upper_bound(z, L)` is a table entry, and not an upper bound -/

/-- what `upper_bound` returns: entry `min L lMax` of the stored row `min N (max [L>0] ⌊N z/16⌋)` -/
theorem upperBound_eq (lMax N order : ℕ) (acc z : ℝ) (L : ℕ) :
    upperBound (build lMax N order acc) z L =
      ((build lMax N order acc).K[min N (max (if L > 0 then 1 else 0) ⌊(N : ℝ) * z / 16⌋₊)]!)[min L lMax]! := by
  rfl

/-- … for the shipped constants: it is the truncated series of K_lx at the node z_ix = ix/100, below K_lx(z_ix) by less
than the series accuracy -/
theorem upperBound_spec (lMax : ℕ) (hlMax : lMax ≤ 3 * Gen.LIBECPINT_MAX_L) (acc : ℝ) (hacc : 1 / 10 ^ 15 ≤ acc)
    (hacc7 : acc ≤ 1 / 10 ^ 7) (z : ℝ) (L : ℕ) :
    let ix := min Gen.BESSEL_N (max (if L > 0 then 1 else 0) ⌊(Gen.BESSEL_N : ℝ) * z / 16⌋₊)
    let lx := min L lMax
    let u := upperBound (build lMax Gen.BESSEL_N Gen.BESSEL_ORDER acc) z L
    u = (tabulateRow (dfacTable (α := ℝ) Gen.MAX_DFAC) Gen.BESSEL_N Gen.BESSEL_ORDER (lMax + Gen.TAYLOR_CUT) acc ix)[lx]! ∧
    0 ≤ K lx ((ix : ℝ) / ((Gen.BESSEL_N : ℝ) / 16)) - u ∧ K lx ((ix : ℝ) / ((Gen.BESSEL_N : ℝ) / 16)) - u < acc := by
  intro ix lx u
  have hix : ix ≤ Gen.BESSEL_N := min_le_left _ _
  have hu : u = (tabulateRow (dfacTable (α := ℝ) Gen.MAX_DFAC) Gen.BESSEL_N Gen.BESSEL_ORDER (lMax + Gen.TAYLOR_CUT) acc ix)[lx]! := by
    show upperBound _ z L = _
    rw [upperBound_eq, build_K_get _ _ _ _ _ hix]
  refine ⟨hu, ?_⟩
  rw [hu]
  have hlx : lx ≤ lMax := min_le_right _ _
  exact stored_row_error Gen.BESSEL_N BESSEL_N_pos ix hix acc (acc_lower acc hacc) hacc7 (lMax + Gen.TAYLOR_CUT) (by omega) lx
    (by omega)

/-- the node of that row is at or below z (for 0 ≤ z ≤ 16 and, if L > 0, z ≥ 0.01) -/
theorem upperBound_node_le (z : ℝ) (hz : 0 ≤ z) : (⌊(Gen.BESSEL_N : ℝ) * z / 16⌋₊ : ℝ) / ((Gen.BESSEL_N : ℝ) / 16) ≤ z := by
  have hs : (0 : ℝ) < (Gen.BESSEL_N : ℝ) / 16 := div_pos (Nat.cast_pos.2 BESSEL_N_pos) (by norm_num)
  have h := Nat.floor_le (a := (Gen.BESSEL_N : ℝ) * z / 16) (by positivity)
  rw [div_le_iff₀ hs]
  exact h.trans_eq (by ring)

/-- NOT an upper bound: at z = 0.015, L = 1 the row used is the node 0.01 below z, and K_1 is increasing there:
upper_bound(0.015, 1) ≤ K_1(0.01) ≤ 0.003302 < 0.004918 ≤ K_1(0.015) -/
theorem upperBound_not_upper (lMax : ℕ) (h1 : 1 ≤ lMax) (hlMax : lMax ≤ 3 * Gen.LIBECPINT_MAX_L) (acc : ℝ)
    (hacc : 1 / 10 ^ 15 ≤ acc) (hacc7 : acc ≤ 1 / 10 ^ 7) :
    upperBound (build lMax Gen.BESSEL_N Gen.BESSEL_ORDER acc) (3 / 200) 1 < K 1 (3 / 200) := by
  obtain ⟨-, hlo, -⟩ := upperBound_spec lMax hlMax acc hacc hacc7 (3 / 200) 1
  have hfl : ⌊(Gen.BESSEL_N : ℝ) * (3 / 200) / 16⌋₊ = 1 := by
    rw [Nat.floor_eq_iff (by simp only [Gen.BESSEL_N]; norm_num)]
    simp only [Gen.BESSEL_N]
    norm_num
  have hix : min Gen.BESSEL_N (max (if 1 > 0 then 1 else 0) ⌊(Gen.BESSEL_N : ℝ) * (3 / 200) / 16⌋₊) = 1 := by
    rw [hfl]
    decide
  have hlx : min 1 lMax = 1 := min_eq_left h1
  rw [hix, hlx] at hlo
  have hnode : ((1 : ℕ) : ℝ) / ((Gen.BESSEL_N : ℝ) / 16) = 1 / 100 := by
    simp only [Gen.BESSEL_N]
    norm_num
  rw [hnode] at hlo
  have hs1 : ∀ x : ℝ, smallAll x 1 = (1 - x) * x / 3 := by
    intro x
    simp only [smallAll]
    norm_num
  have ha := (abs_le.mp (K_small 1 (1 / 100) (by norm_num) (by norm_num))).2
  have hb := (abs_le.mp (K_small 1 (3 / 200) (by norm_num) (by norm_num))).1
  rw [hs1] at ha hb
  norm_num at ha hb
  linarith only [ha, hb, hlo]

theorem upperBound_not_upper_exists (lMax : ℕ) (h1 : 1 ≤ lMax) (hlMax : lMax ≤ 3 * Gen.LIBECPINT_MAX_L) (acc : ℝ)
    (hacc : 1 / 10 ^ 15 ≤ acc) (hacc7 : acc ≤ 1 / 10 ^ 7) :
    ∃ (z : ℝ) (L : ℕ), 0 < z ∧ z ≤ 16 ∧ L ≤ lMax ∧
      upperBound (build lMax Gen.BESSEL_N Gen.BESSEL_ORDER acc) z L < K L z :=
  ⟨3 / 200, 1, by norm_num, by norm_num, h1, upperBound_not_upper lMax h1 hlMax acc hacc hacc7⟩

end Ecpint.C14f
