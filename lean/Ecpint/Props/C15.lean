/-
C15 — adaptive Gauss–Chebyshev quadrature (`GCQuadrature`): structure, for EVERY grid size.
Model: Ecpint/Model/Quad.lean (agrees bit for bit with gaussquad.cpp at Float, see checks/c15.py).
  * the trigonometric recurrence of `initGrid` produces sin and cos of the equally spaced angles, so the abscissae and
    weights are those of the Pérez-Jordá rule;
  * `sumTerms` visits the NEW nodes of the doubled rule, each once (one-point: the odd multiples of the stride; two-point:
    the multiples ≡ ±1 mod 6), all inside the grid; the one-point levels and the midpoint use every node exactly once;
  * the change of variables of `transformRMinMax` and the derivative of the half-line map of `transformZeroInf` (the
    weight factor); what the two do to nodes and weights is in C15c.
Not proved: that the acceptance tests imply the error bound (Pérez-Jordá's heuristic; see the recorded finding
`premature-acceptance`).
-/
import Ecpint.Model.Quad
import Ecpint.Lemmas.Quad
import Mathlib.Tactic.FieldSimp
import Mathlib.Tactic.Ring
import Mathlib.Tactic.Linarith
import Mathlib.Analysis.SpecialFunctions.Trigonometric.Basic
import Mathlib.Analysis.SpecialFunctions.Log.Deriv
import Mathlib.MeasureTheory.Integral.IntervalIntegral.Basic
import Mathlib.Data.List.Perm.Basic

namespace Ecpint.C15
open Ecpint.Quad Ecpint.QuadLemmas

/-- the grid sizes the library itself asks for: 128 → 127, 1024 → 1023 one-point; 256 → 191 two-point -/
theorem library_grid_sizes : gridSize .onePoint 7 = 127 ∧ gridSize .onePoint 10 = 1023 ∧ gridSize .twoPoint 6 = 191 := by decide

theorem trigStep_add (z a : ℝ) :
    trigStep z (Real.cos z) (Real.sin z) (a, Real.sin a, Real.cos a)
      = (a + z, Real.sin (a + z), Real.cos (a + z)) := by
  rw [Real.sin_add, Real.cos_add, trigStep, Prod.mk.injEq, Prod.mk.injEq]
  exact ⟨rfl, by ring, by ring⟩

/-- the recurrence of `GCQuadrature::initGrid` carries the sine and cosine of the equally spaced angles (n+1)·z1 -/
theorem trig_recurrence (z1 : ℝ) (n : ℕ) :
    (trigStep z1 (Real.cos z1) (Real.sin z1))^[n] (z1, Real.sin z1, Real.cos z1)
      = (((n : ℝ) + 1) * z1, Real.sin (((n : ℝ) + 1) * z1), Real.cos (((n : ℝ) + 1) * z1)) := by
  induction n with
  | zero => simp
  | succ n ih =>
    have h : ((n : ℝ) + 1) * z1 + z1 = (((n + 1 : ℕ) : ℝ) + 1) * z1 := by
      push_cast
      ring
    rw [Function.iterate_succ_apply', ih, trigStep_add, h]

/-- the mirrored halves are consistent: the node at angle π − θ has the opposite abscissa and the same weight -/
theorem node_mirror (θ : ℝ) :
    nodeX (2 / (3 * Real.pi)) (Real.pi - θ) (Real.sin (Real.pi - θ)) (Real.cos (Real.pi - θ))
        = -(nodeX (2 / (3 * Real.pi)) θ (Real.sin θ) (Real.cos θ)) ∧
    nodeW (Real.sin (Real.pi - θ)) = nodeW (Real.sin θ) := by
  rw [Real.sin_pi_sub, Real.cos_pi_sub]
  refine ⟨?_, rfl⟩
  simp only [nodeX]
  have hpi := Real.pi_ne_zero
  push_cast
  field_simp
  ring

/-- both members of every visited pair, in visiting order -/
def visited (maxN limit shift skip : ℕ) : List ℕ :=
  (sumIndices maxN limit shift skip).flatMap fun q => [q.1, q.2]

theorem visited_eq (maxN limit shift skip : ℕ) :
    visited maxN limit shift skip = (List.range (limit / 2 + 1)).flatMap fun j =>
      [(skip * (2 * j) + 1) * shift - 1, maxN - ((skip * (2 * j) + 1) * shift - 1) - 1] := by
  simp only [visited, sumIndices, List.flatMap_map]

theorem visited_length (maxN limit shift skip : ℕ) :
    (visited maxN limit shift skip).length = 2 * (limit / 2 + 1) := by
  rw [visited_eq, length_flatMap_pair, List.length_range]

theorem visited_level (N K s skip : ℕ) (hK : 1 ≤ K) (hs : 1 ≤ s) (hNs : N + 1 = 2 * skip * K * s) :
    visited N (2 * K - 1) s skip = (List.range K).flatMap fun j =>
      [(skip * (2 * j) + 1) * s - 1, (2 * skip * K - (skip * (2 * j) + 1)) * s - 1] := by
  rw [visited_eq, show (2 * K - 1) / 2 + 1 = K by omega]
  apply List.flatMap_congr
  intro j _
  rw [mirror_index N _ s (skip * (2 * j) + 1) hNs (Nat.mul_pos (Nat.succ_pos _) hs)]

theorem visited_level_closed (N K s skip : ℕ) (hK : 1 ≤ K) (hs : 1 ≤ s) (hskip : 1 ≤ skip) (hNs : N + 1 = 2 * skip * K * s) :
    visited N (2 * K - 1) s skip = (List.range K).flatMap fun j =>
      [(2 * skip * j + 1) * s - 1, (2 * skip * (K - 1 - j) + (2 * skip - 1)) * s - 1] := by
  rw [visited_level N K s skip hK hs hNs]
  refine List.flatMap_congr fun j hj => ?_
  rw [pair_mirror skip K j (List.mem_range.1 hj), Nat.mul_left_comm skip 2 j, ← Nat.mul_assoc, Nat.mul_succ,
    Nat.add_sub_assoc (Nat.mul_pos (by norm_num) hskip)]

theorem visited_lt (N K s skip : ℕ) (hK : 1 ≤ K) (hs : 1 ≤ s) (hskip : 1 ≤ skip) (hNs : N + 1 = 2 * skip * K * s) :
    ∀ i ∈ visited N (2 * K - 1) s skip, i < N := by
  intro x hx
  rw [visited_level N K s skip hK hs hNs, List.mem_flatMap] at hx
  obtain ⟨j, hj, hx⟩ := hx
  have ha : skip * (2 * j) + 1 < 2 * skip * K := pair_index_lt skip K j hskip (List.mem_range.1 hj)
  simp only [List.mem_cons, List.not_mem_nil, or_false] at hx
  rcases hx with rfl | rfl
  · exact node_lt N _ s _ hNs (Nat.succ_pos _) ha
  · exact node_lt N _ s _ hNs (by omega) (by omega)

theorem visited_onePoint (P k : ℕ) (hk : k + 2 ≤ P) :
    visited (2 ^ P - 1) (2 ^ (k + 1) - 1) (2 ^ (P - 2 - k)) 2
      = (List.range (2 ^ k)).flatMap fun j =>
          [(4 * j + 1) * 2 ^ (P - 2 - k) - 1, (4 * (2 ^ k - 1 - j) + 3) * 2 ^ (P - 2 - k) - 1] := by
  rw [pow_succ']
  exact visited_level_closed _ (2 ^ k) _ 2 (Nat.two_pow_pos k) (Nat.two_pow_pos _) (by norm_num) (two_pow_split_one P k hk)

theorem visited_twoPoint (P k : ℕ) (hk : k + 1 ≤ P) :
    visited (3 * 2 ^ P - 1) (2 ^ (k + 1) - 1) (2 ^ (P - 1 - k)) 3
      = (List.range (2 ^ k)).flatMap fun j =>
          [(6 * j + 1) * 2 ^ (P - 1 - k) - 1, (6 * (2 ^ k - 1 - j) + 5) * 2 ^ (P - 1 - k) - 1] := by
  rw [pow_succ']
  exact visited_level_closed _ (2 ^ k) _ 3 (Nat.two_pow_pos k) (Nat.two_pow_pos _) (by norm_num) (two_pow_split_two P k hk)

/-- one-point scheme, level k (grid 2^P − 1, stride 2^(P−2−k), `limit = n = 2^(k+1) − 1`): `sumTerms` visits exactly
`m·stride − 1` for the odd m < 2^(k+2), each once — the new nodes of the doubled rule -/
theorem onePoint_level_indices (P k : ℕ) (hk : k + 2 ≤ P) :
    (visited (2 ^ P - 1) (2 ^ (k + 1) - 1) (2 ^ (P - 2 - k)) 2).Perm
      ((List.range (2 ^ (k + 1))).map fun i => (2 * i + 1) * 2 ^ (P - 2 - k) - 1) := by
  have hs : 1 ≤ 2 ^ (P - 2 - k) := Nat.two_pow_pos _
  apply perm_of_nodup_subset_length (nodup_odd_stride _ _ hs)
  · intro x hx
    rw [List.mem_map] at hx
    obtain ⟨i, hi, rfl⟩ := hx
    rw [List.mem_range, pow_succ] at hi
    rw [visited_onePoint P k hk, List.mem_flatMap]
    rcases Nat.even_or_odd' i with ⟨j, rfl | rfl⟩
    · refine ⟨j, List.mem_range.2 (by omega), ?_⟩
      rw [show 2 * (2 * j) + 1 = 4 * j + 1 by ring]
      exact List.mem_cons_self
    · refine ⟨2 ^ k - 1 - j, List.mem_range.2 (by omega), ?_⟩
      rw [show 2 ^ k - 1 - (2 ^ k - 1 - j) = j by omega, show 2 * (2 * j + 1) + 1 = 4 * j + 3 by ring]
      exact List.mem_cons_of_mem _ List.mem_cons_self
  · rw [visited_length, half_limit, List.length_map, List.length_range, pow_succ']

/-- every node of the grid is used exactly once: the midpoint and the levels 0 … P−2 partition `[0, 2^P − 1)` -/
theorem onePoint_nodes_partition (P : ℕ) (hP : 1 ≤ P) :
    (([2 ^ (P - 1) - 1] ++ (List.range (P - 1)).flatMap fun k =>
        visited (2 ^ P - 1) (2 ^ (k + 1) - 1) (2 ^ (P - 2 - k)) 2)).Perm (List.range (2 ^ P - 1)) := by
  apply perm_of_nodup_subset_length List.nodup_range
  · intro x hx
    rw [List.mem_range] at hx
    rcases dyadic_decomp P (x + 1) (by omega) (by omega) with h | ⟨k, hk, i, hi, h⟩
    · refine List.mem_append_left _ (List.mem_singleton.2 ?_)
      omega
    · refine List.mem_append_right _ (List.mem_flatMap.2 ⟨k, List.mem_range.2 hk, ?_⟩)
      rw [(onePoint_level_indices P k (by omega)).mem_iff, List.mem_map]
      exact ⟨i, List.mem_range.2 hi, by omega⟩
  · rw [List.length_append, List.length_range, List.length_singleton,
      length_flatMap_levels _ (fun k => by rw [visited_length, half_limit, pow_succ']), Nat.sub_add_cancel hP]
    have h2 : 2 ^ 1 ≤ 2 ^ P := Nat.pow_le_pow_right (by norm_num) hP
    omega

/-- two-point scheme, level k (grid 3·2^P − 1, stride 2^(P−1−k), `limit = (2m−1)/3 = 2^(k+1) − 1` for m = 3·2^k − 1):
`sumTerms` visits exactly `m'·stride − 1` for m' ≡ 1 or 5 (mod 6), m' < 6·2^k -/
theorem twoPoint_level_indices (P k : ℕ) (hk : k + 1 ≤ P) :
    (visited (3 * 2 ^ P - 1) (2 ^ (k + 1) - 1) (2 ^ (P - 1 - k)) 3).Perm
      ((List.range (2 ^ k)).flatMap fun j =>
        [(6 * j + 1) * 2 ^ (P - 1 - k) - 1, (6 * (2 ^ k - 1 - j) + 5) * 2 ^ (P - 1 - k) - 1]) := by
  rw [visited_twoPoint P k hk]

/-- every index `sumTerms` reads is inside the grid (`0 ≤ ix < maxN`), at every level of both schemes -/
theorem visited_in_range_onePoint (P k : ℕ) (hk : k + 2 ≤ P) :
    ∀ i ∈ visited (2 ^ P - 1) (2 ^ (k + 1) - 1) (2 ^ (P - 2 - k)) 2, i < 2 ^ P - 1 := by
  rw [pow_succ']
  exact visited_lt _ (2 ^ k) _ 2 (Nat.two_pow_pos k) (Nat.two_pow_pos _) (by norm_num) (two_pow_split_one P k hk)

theorem visited_in_range_twoPoint (P k : ℕ) (hk : k + 1 ≤ P) :
    ∀ i ∈ visited (3 * 2 ^ P - 1) (2 ^ (k + 1) - 1) (2 ^ (P - 1 - k)) 3, i < 3 * 2 ^ P - 1 := by
  rw [pow_succ']
  exact visited_lt _ (2 ^ k) _ 3 (Nat.two_pow_pos k) (Nat.two_pow_pos _) (by norm_num) (two_pow_split_two P k hk)

/-- the linear map of `transformRMinMax` implements the change of variables
∫_{rmin}^{rmax} g = ∫_{-1}^{1} g(rmid·t + amid)·rmid dt with rmid = (rmax−rmin)/2, amid = rmid + rmin -/
theorem window_change_of_variables (g : ℝ → ℝ) (rmin rmax : ℝ) :
    ∫ t in (-1 : ℝ)..1, g ((1 / 2 * (rmax - rmin)) * t + (1 / 2 * (rmax - rmin) + rmin)) * (1 / 2 * (rmax - rmin))
      = ∫ r in rmin..rmax, g r := by
  rw [intervalIntegral.integral_mul_const, mul_comm, ← smul_eq_mul, intervalIntegral.smul_integral_comp_mul_add]
  congr 1
  · ring
  · ring

/-- the half-line map x ↦ 1 − log(1−x)/log 2 sends −1 to 0 and has derivative 1/(log 2·(1−x)) on x < 1 —
the factor `transformZeroInf` puts on the weights -/
theorem zeroInf_map (x : ℝ) (hx : x < 1) :
    (1 - Real.log (1 - (-1 : ℝ)) / Real.log 2 = 0) ∧
    HasDerivAt (fun x : ℝ => 1 - Real.log (1 - x) / Real.log 2) (1 / (Real.log 2 * (1 - x))) x := by
  have hl : Real.log 2 ≠ 0 := (Real.log_pos (by norm_num)).ne'
  constructor
  · have : (1 - (-1 : ℝ)) = 2 := by norm_num
    rw [this, div_self hl, sub_self]
  · have h1 : (1 - x) ≠ 0 := by linarith
    have := ((((hasDerivAt_id' x).const_sub 1).log h1).div_const (Real.log 2)).const_sub 1
    have e : 1 / (Real.log 2 * (1 - x)) = -(-1 / (1 - x) / Real.log 2) := by
      field_simp
    rw [e]
    exact this

end Ecpint.C15
