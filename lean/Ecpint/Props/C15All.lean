/- C15 — root of the property's theorems: C15 (index sets of both nested schemes, trigonometric recurrence, the two interval
   maps), C15b (the Pérez-Jordá rule over ℝ: weights, exactness, nesting identities, convergence), C15c (the EXECUTABLE model
   at ℝ computes that rule; what the start/stop clipping of `sumTerms` really adds) -/
import Ecpint.Props.C15
import Ecpint.Props.C15b
import Ecpint.Props.C15c
