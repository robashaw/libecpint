/-
C15b — the Pérez-Jordá Gauss–Chebyshev rule behind `GCQuadrature` as a statement about ∫_{-1}^{1} f (real analysis).
Model: Ecpint/Model/Quad.lean (`nodeX`, `nodeW`, `integrate`'s final scaling 16·T/(3(n+1))); C15.lean has the index sets.

The abscissa x(θ) decreases strictly from 1 to −1 on [0, π] with x' = −16/(3π)·sin⁴θ, so the weights are the Jacobian and
the rule is the trapezoid rule in θ for sin⁴θ·f(x(θ)): exact on cosine polynomials of degree < 2(n+1) (constants need
n ≥ 2), convergent for every continuous f.  Nesting: node i of the n-rule is node 2i of the (2n+1)-rule, and in the
two-point scheme (m+1 = 3/2(n+1)) the n-rule and the (n−1)/2-rule are the nodes 3i and 6i of the (2m+1)-rule; hence the
update formulas of `integrate`.  The half-line map of `transformZeroInf` is a change of variables for EVERY g (both sides
are 0 together when not integrable); the transformed rule converges when the transformed integrand is continuous on [−1, 1].
Not proved here: an error bound for a given n, or anything about the acceptance tests (see C15.lean header).
-/
import Ecpint.Model.Quad
import Ecpint.Lemmas.QuadReal
import Ecpint.Props.C15
import Mathlib.Tactic.FieldSimp
import Mathlib.Tactic.Ring
import Mathlib.Tactic.Linarith
import Mathlib.Tactic.LinearCombination
import Mathlib.Analysis.SpecialFunctions.Trigonometric.Deriv
import Mathlib.Analysis.Calculus.Deriv.MeanValue
import Mathlib.MeasureTheory.Integral.IntervalIntegral.IntegrationByParts
import Mathlib.Analysis.SpecialFunctions.Integrals.Basic
import Mathlib.MeasureTheory.Function.JacobianOneDim
import Mathlib.Analysis.SpecialFunctions.Log.Deriv

namespace Ecpint.C15b
open Real Ecpint.QuadReal Filter Topology MeasureTheory Set

/-- the abscissa as a function of the angle (this is `Quad.nodeX (2/(3π)) θ (sin θ) (cos θ)`) -/
noncomputable def xOf (θ : ℝ) : ℝ := 1 + 2 / (3 * π) * ((3 + 2 * sin θ ^ 2) * cos θ * sin θ - 3 * θ)

theorem xOf_eq_nodeX (θ : ℝ) : xOf θ = Ecpint.Quad.nodeX (2 / (3 * π)) θ (sin θ) (cos θ) := by
  simp only [xOf, Ecpint.Quad.nodeX]
  push_cast
  ring

theorem nodeW_eq (s : ℝ) : Ecpint.Quad.nodeW s = s ^ 4 := by
  simp only [Ecpint.Quad.nodeW]
  ring

theorem xOf_hasDerivAt (θ : ℝ) : HasDerivAt xOf (-(16 / (3 * π)) * sin θ ^ 4) θ := by
  have hs := hasDerivAt_sin θ
  have hc := hasDerivAt_cos θ
  have h2 : HasDerivAt (fun θ : ℝ => 3 + 2 * sin θ ^ 2) (2 * (2 * sin θ * cos θ)) θ :=
    (((hs.fun_pow 2).const_mul 2).const_add 3).congr_deriv (by norm_num)
  have h1 : HasDerivAt (fun θ : ℝ => (3 + 2 * sin θ ^ 2) * cos θ * sin θ - 3 * θ)
      (((2 * (2 * sin θ * cos θ)) * cos θ + (3 + 2 * sin θ ^ 2) * (-sin θ)) * sin θ
        + (3 + 2 * sin θ ^ 2) * cos θ * cos θ - 3 * 1) θ :=
    ((h2.mul hc).mul hs).sub ((hasDerivAt_id' θ).const_mul 3)
  refine ((h1.const_mul (2 / (3 * π))).const_add 1).congr_deriv ?_
  -- the derivative is −8 sin⁴θ plus a multiple of sin² + cos² − 1
  linear_combination (2 / (3 * π)) * (6 * sin θ ^ 2 + 3) * sin_sq_add_cos_sq θ

theorem xOf_zero : xOf 0 = 1 := by simp [xOf]

theorem xOf_pi : xOf π = -1 := by
  have hpi := pi_ne_zero
  simp only [xOf, sin_pi, cos_pi]
  field_simp
  ring

theorem xOf_pi_sub (θ : ℝ) : xOf (π - θ) = -(xOf θ) := by
  rw [xOf_eq_nodeX, xOf_eq_nodeX]
  exact (Ecpint.C15.node_mirror θ).1

theorem xOf_pi_div_two : xOf (π / 2) = 0 := by
  have h := xOf_pi_sub (π / 2)
  rwa [sub_half, self_eq_neg] at h

theorem xOf_continuous : Continuous xOf :=
  continuous_iff_continuousAt.2 fun θ => (xOf_hasDerivAt θ).continuousAt

theorem xOf_strictAntiOn : StrictAntiOn xOf (Set.Icc 0 π) := by
  apply strictAntiOn_of_deriv_neg (convex_Icc 0 π) xOf_continuous.continuousOn
  intro θ hθ
  rw [interior_Icc] at hθ
  rw [(xOf_hasDerivAt θ).deriv]
  have hs : 0 < sin θ := sin_pos_of_pos_of_lt_pi hθ.1 hθ.2
  rw [neg_mul, neg_lt_zero]
  positivity

theorem xOf_mem (θ : ℝ) (h : θ ∈ Set.Icc 0 π) : xOf θ ∈ Set.Icc (-1) 1 := by
  have h0 : (0 : ℝ) ∈ Set.Icc 0 π := ⟨le_refl _, pi_pos.le⟩
  have hp : π ∈ Set.Icc 0 π := ⟨pi_pos.le, le_refl _⟩
  have ha := xOf_strictAntiOn.antitoneOn
  constructor
  · rw [← xOf_pi]
    exact ha h hp h.2
  · rw [← xOf_zero]
    exact ha h0 h h.1

/-- the quadrature is the (n+1)-panel trapezoid rule of the right-hand side (whose integrand vanishes at both ends), with
step π/(n+1) -/
theorem integral_change_of_variables (f : ℝ → ℝ) (hf : Continuous f) :
    ∫ x in (-1 : ℝ)..1, f x = 16 / (3 * π) * ∫ θ in (0 : ℝ)..π, sin θ ^ 4 * f (xOf θ) := by
  have h := intervalIntegral.integral_comp_mul_deriv (a := 0) (b := π) (f := xOf)
    (f' := fun θ => -(16 / (3 * π)) * sin θ ^ 4) (g := f)
    (fun θ _ => xOf_hasDerivAt θ) (continuous_const.mul (continuous_sin.pow 4)).continuousOn hf
  rw [xOf_zero, xOf_pi, intervalIntegral.integral_symm (-1) 1] at h
  rw [← neg_neg (∫ x in (-1 : ℝ)..1, f x), ← h, ← intervalIntegral.integral_neg, ← intervalIntegral.integral_const_mul]
  congr 1
  funext θ
  simp only [Function.comp]
  ring

theorem sum_sin_pow_four (n : ℕ) (hn : 2 ≤ n) :
    ∑ i ∈ Finset.range n, sin ((i + 1 : ℕ) * π / (n + 1)) ^ 4 = 3 * (n + 1) / 8 := by
  have h2 := sum_cos_nodes n 2 (by norm_num) (by omega)
  have h4 := sum_cos_nodes n 4 (by norm_num) (by omega)
  simp only [Nat.cast_ofNat] at h2 h4
  simp_rw [sin_pow_four_eq]
  rw [← Finset.sum_div, Finset.sum_add_distrib, Finset.sum_sub_distrib, ← Finset.mul_sum, h2, h4]
  simp only [Finset.sum_const, Finset.card_range, nsmul_eq_mul]
  norm_num
  ring

/-- for n = 1 the single weight is sin⁴(π/2) = 1, not 3/4: the normalisation needs n ≥ 2 -/
theorem sum_sin_pow_four_one :
    ∑ i ∈ Finset.range 1, sin ((i + 1 : ℕ) * π / ((1 : ℕ) + 1)) ^ 4 = 1 := by
  norm_num

/-- angle of node i (1-based, i = 1..n) of the n-point rule -/
noncomputable def theta (n i : ℕ) : ℝ := (i : ℝ) * π / ((n : ℝ) + 1)

/-- nesting: node i of the n-point rule is node i' of the n'-point rule when i/(n+1) = i'/(n'+1) -/
theorem theta_eq_of {n i n' i' : ℕ} (h : i * (n' + 1) = i' * (n + 1)) : theta n i = theta n' i' := by
  have hR : (i : ℝ) * ((n' : ℝ) + 1) = (i' : ℝ) * ((n : ℝ) + 1) := by exact_mod_cast h
  simp only [theta]
  rw [div_eq_div_iff (by positivity) (by positivity)]
  linear_combination π * hR

theorem theta_succ (n i : ℕ) : theta n (i + 1) = theta n i + theta n 1 := by
  simp only [theta]
  push_cast
  ring

theorem theta_mirror (n i j : ℕ) (h : i + j = n + 1) : theta n i = π - theta n j := by
  have hn : (0 : ℝ) < (n : ℝ) + 1 := by positivity
  have hR : (i : ℝ) + (j : ℝ) = (n : ℝ) + 1 := by exact_mod_cast h
  simp only [theta]
  rw [eq_sub_iff_add_eq, ← add_div, div_eq_iff hn.ne']
  linear_combination π * hR

theorem theta_mid (M : ℕ) : theta (2 * M + 1) (M + 1) = π / 2 := by
  rw [theta_eq_of (show (M + 1) * (1 + 1) = 1 * (2 * M + 1 + 1) by ring)]
  simp only [theta]
  norm_num

theorem theta_zero (n : ℕ) : theta n 0 = 0 := by
  rw [theta, Nat.cast_zero, zero_mul, zero_div]

theorem theta_last (n : ℕ) : theta n (n + 1) = π := by
  rw [theta, Nat.cast_succ, mul_comm, mul_div_assoc, div_self (Nat.cast_add_one_pos n).ne', mul_one]

theorem theta_strictMono (n : ℕ) : StrictMono (theta n) := fun _ _ h =>
  div_lt_div_of_pos_right (mul_lt_mul_of_pos_right (Nat.cast_lt.2 h) pi_pos) (Nat.cast_add_one_pos n)

theorem theta_mem (n i : ℕ) (hi : i ≤ n + 1) : theta n i ∈ Set.Icc 0 π :=
  ⟨theta_zero n ▸ (theta_strictMono n).monotone (Nat.zero_le i), theta_last n ▸ (theta_strictMono n).monotone hi⟩

/-- one term w_i f(x_i) of the n-point rule -/
noncomputable def term (f : ℝ → ℝ) (n i : ℕ) : ℝ :=
  Ecpint.Quad.nodeW (sin (theta n i)) * f (xOf (theta n i))

theorem term_eq_of (f : ℝ → ℝ) {n i n' i' : ℕ} (h : i * (n' + 1) = i' * (n + 1)) : term f n i = term f n' i' := by
  simp only [term, theta_eq_of h]

theorem term_zero (f : ℝ → ℝ) (n : ℕ) : term f n 0 = 0 := by
  simp [term, theta, nodeW_eq]

/-- T_n = Σ_{i=1}^{n} w_i f(x_i), the quantity `integrate` accumulates -/
noncomputable def T (f : ℝ → ℝ) (n : ℕ) : ℝ := ∑ i ∈ Finset.range n, term f n (i + 1)

/-- I_n = 16·T_n/(3(n+1)), what `integrate` returns -/
noncomputable def rule (f : ℝ → ℝ) (n : ℕ) : ℝ := 16 * T f n / (3 * ((n : ℝ) + 1))

/-- T_n summed from node 0 (weight 0): one term per panel, so that doubled rules split into blocks -/
theorem T_eq_sum_range_succ (f : ℝ → ℝ) (n : ℕ) : T f n = ∑ i ∈ Finset.range (n + 1), term f n i := by
  rw [Finset.sum_range_succ', term_zero, add_zero, T]

theorem T_zero (Φ : ℝ → ℝ) : T Φ 0 = 0 := by simp [T]

theorem T_one (Φ : ℝ → ℝ) : T Φ 1 = term Φ 1 1 := by simp [T]

theorem T_two (Φ : ℝ → ℝ) : T Φ 2 = term Φ 2 1 + term Φ 2 2 := by simp [T, Finset.sum_range_succ]

theorem term_neg (F : ℝ → ℝ) (n i j : ℕ) (h : i + j = n + 1) :
    term (fun x => F (-x)) n i = term F n j := by
  simp only [term]
  rw [theta_mirror n i j h, sin_pi_sub, xOf_pi_sub, neg_neg]

theorem T_neg (F : ℝ → ℝ) (n : ℕ) : T (fun x => F (-x)) n = T F n := by
  simp only [T]
  rw [← Finset.sum_range_reflect (fun i => term F n (i + 1)) n]
  apply Finset.sum_congr rfl
  intro i hi
  rw [Finset.mem_range] at hi
  exact term_neg F n _ _ (by omega)

theorem rule_neg (F : ℝ → ℝ) (n : ℕ) : rule (fun x => F (-x)) n = rule F n := by
  simp only [rule, T_neg]

theorem T_eq_sum_mul (f : ℝ → ℝ) (n m d : ℕ) (h : m + 1 = d * (n + 1)) :
    T f n = ∑ i ∈ Finset.range (n + 1), term f m (d * i) := by
  rw [T_eq_sum_range_succ]
  refine Finset.sum_congr rfl fun i _ => term_eq_of f ?_
  rw [h]
  ring

/-- the update `T2n1 = Tn + sumTerms(...)` of `integrate` (one-point scheme): the new terms are the odd-numbered nodes of
the (2n+1)-point rule -/
theorem T_onePoint_step (f : ℝ → ℝ) (n : ℕ) :
    T f (2 * n + 1) = T f n + ∑ i ∈ Finset.range (n + 1), term f (2 * n + 1) (2 * i + 1) := by
  rw [T_eq_sum_mul f n (2 * n + 1) 2 (by ring), T_eq_sum_range_succ, show 2 * n + 1 + 1 = 2 * (n + 1) by ring,
    sum_range_mul_blocks, ← Finset.sum_add_distrib]
  refine Finset.sum_congr rfl fun i _ => ?_
  rw [Finset.sum_range_succ, Finset.sum_range_one, add_zero]

/-- the update `T2m1 = Tm + Tn − Tn12 + sumTerms(...)` of `integrate` (two-point scheme: m + 1 = 3/2·(n + 1); here
m = 3K+2, n = 2K+1, (n−1)/2 = K, 2m+1 = 6K+5; in the code K = 2^k − 1).  In the (2m+1)-point rule being built the m-point
rule is every 2nd node, the companion n-point rule every 3rd and the rule before that, T_{(n−1)/2}, every 6th.  Every residue
mod 6 is a multiple of 2, of 3, or ±1, and the multiples of 6 are counted twice. -/
theorem T_twoPoint_step (f : ℝ → ℝ) (K : ℕ) :
    T f (6 * K + 5) = T f (3 * K + 2) + T f (2 * K + 1) - T f K
      + ∑ j ∈ Finset.range (K + 1), (term f (6 * K + 5) (6 * j + 1) + term f (6 * K + 5) (6 * j + 5)) := by
  rw [T_eq_sum_mul f (3 * K + 2) (6 * K + 5) 2 (by ring), T_eq_sum_mul f (2 * K + 1) (6 * K + 5) 3 (by ring),
    T_eq_sum_mul f K (6 * K + 5) 6 (by ring), T_eq_sum_range_succ, show 6 * K + 5 + 1 = 6 * (K + 1) by ring,
    show 3 * K + 2 + 1 = 3 * (K + 1) by ring, show 2 * K + 1 + 1 = 2 * (K + 1) by ring, sum_range_mul_blocks,
    sum_range_mul_blocks, sum_range_mul_blocks, ← Finset.sum_add_distrib, ← Finset.sum_sub_distrib,
    ← Finset.sum_add_distrib]
  refine Finset.sum_congr rfl fun i _ => ?_
  simp only [Finset.sum_range_succ, Finset.sum_range_zero, zero_add, add_zero]
  rw [show 2 * (3 * i) = 6 * i by ring, show 2 * (3 * i + 1) = 6 * i + 2 by ring,
    show 2 * (3 * i + 2) = 6 * i + 4 by ring, show 3 * (2 * i) = 6 * i by ring,
    show 3 * (2 * i + 1) = 6 * i + 3 by ring]
  ring

/-- constants are integrated exactly by every rule with n ≥ 2 points -/
theorem rule_const (n : ℕ) (hn : 2 ≤ n) (c : ℝ) : rule (fun _ => c) n = ∫ _x in (-1 : ℝ)..1, c := by
  rw [intervalIntegral.integral_const, smul_eq_mul]
  simp only [rule, T, term, theta, nodeW_eq]
  rw [← Finset.sum_mul, sum_sin_pow_four n hn]
  field_simp
  ring

/-- the rule is the trapezoid rule for g(θ) = sin⁴θ·f(x(θ)) on [0, π] (whose even 2π-periodic extension is what is
really being integrated): if g is a cosine polynomial of degree < 2(n+1) the n-point rule is exact.
(sin⁴ itself has degree 4, which is why constants need n ≥ 2.) -/
theorem rule_exact_of_cos_poly (n : ℕ) (f : ℝ → ℝ) (hf : Continuous f) (a : ℕ → ℝ)
    (hg : ∀ θ ∈ Set.Icc 0 π, sin θ ^ 4 * f (xOf θ) = ∑ k ∈ Finset.range (2 * (n + 1)), a k * cos ((k : ℝ) * θ)) :
    rule f n = ∫ x in (-1 : ℝ)..1, f x := by
  rw [show 2 * (n + 1) = 2 * n + 1 + 1 by ring] at hg
  -- the integrand vanishes at both ends
  have h0 := hg 0 ⟨le_refl _, pi_pos.le⟩
  have hp := hg π ⟨pi_pos.le, le_refl _⟩
  simp only [sin_zero, mul_zero, cos_zero, mul_one, ne_eq, OfNat.ofNat_ne_zero, not_false_eq_true, zero_pow,
    zero_mul] at h0
  simp only [sin_pi, ne_eq, OfNat.ofNat_ne_zero, not_false_eq_true, zero_pow, zero_mul, cos_nat_mul_pi] at hp
  have hT : T f n = a 0 * (n + 1) := by
    have h := trap_cos_poly n a
    rw [← h0, ← hp, add_zero, zero_div, sub_zero] at h
    rw [← h]
    simp only [T, term, nodeW_eq]
    refine Finset.sum_congr rfl fun i hi => ?_
    rw [Finset.mem_range] at hi
    rw [hg _ (theta_mem n (i + 1) (by omega))]
    rfl
  have hI : ∫ x in (-1 : ℝ)..1, f x = 16 / (3 * π) * (a 0 * π) := by
    rw [integral_change_of_variables f hf, ← integral_cos_poly (2 * n + 1) a]
    congr 1
    apply intervalIntegral.integral_congr
    intro θ hθ
    rw [Set.uIcc_of_le pi_pos.le] at hθ
    exact hg θ hθ
  rw [hI, rule, hT]
  field_simp

/-- the n-point rule as a right-endpoint Riemann sum with n+1 panels on [0, π] (the last node, θ = π, has weight 0) -/
theorem rule_eq_riemann_sum (f : ℝ → ℝ) (n : ℕ) :
    rule f n = 16 / (3 * π) * (π / ((n : ℝ) + 1) * ∑ i ∈ Finset.range (n + 1),
      (fun θ => sin θ ^ 4 * f (xOf θ)) (((i + 1 : ℕ) : ℝ) * (π / ((n : ℝ) + 1)))) := by
  have hn : (0 : ℝ) < (n : ℝ) + 1 := by positivity
  rw [Finset.sum_range_succ]
  have hlast : ((n + 1 : ℕ) : ℝ) * (π / ((n : ℝ) + 1)) = π := by
    rw [Nat.cast_succ, mul_div_cancel₀ π hn.ne']
  simp only [hlast, sin_pi, ne_eq, OfNat.ofNat_ne_zero, not_false_eq_true, zero_pow, zero_mul, add_zero]
  simp only [rule, T, term, nodeW_eq, theta, mul_div_assoc]
  field_simp
  simp only [mul_comm π]

theorem rule_tendsto_integral (f : ℝ → ℝ) (hf : Continuous f) :
    Tendsto (fun n : ℕ => rule f n) atTop (𝓝 (∫ x in (-1 : ℝ)..1, f x)) := by
  have hg : Continuous (fun θ => sin θ ^ 4 * f (xOf θ)) := by
    have := xOf_continuous
    fun_prop
  rw [integral_change_of_variables f hf]
  refine ((tendsto_right_riemann_sum _ hg π pi_pos.le).const_mul (16 / (3 * π))).congr fun n => ?_
  rw [rule_eq_riemann_sum]

/-- the affine map is that of `transformRMinMax` (half-width (b−a)/2) -/
theorem affine_rule_tendsto (G : ℝ → ℝ) (hG : Continuous G) (a b : ℝ) :
    Tendsto (fun n : ℕ => rule (fun x => 1 / 2 * (b - a) * G (1 / 2 * (b - a) * x + (1 / 2 * (b - a) + a))) n) atTop
      (𝓝 (∫ r in a..b, G r)) := by
  have h := rule_tendsto_integral (fun x => 1 / 2 * (b - a) * G (1 / 2 * (b - a) * x + (1 / 2 * (b - a) + a)))
    (by fun_prop)
  rw [← Ecpint.C15.window_change_of_variables G a b]
  simpa only [mul_comm (1 / 2 * (b - a)) (G _)] using h

theorem log_two_pos : 0 < log 2 := log_pos (by norm_num)

/-- the half-line map of `transformZeroInf` -/
noncomputable def zeroInfMap (x : ℝ) : ℝ := 1 - log (1 - x) / log 2

theorem zeroInfMap_hasDerivAt (x : ℝ) (hx : x < 1) :
    HasDerivAt zeroInfMap (1 / (log 2 * (1 - x))) x :=
  (Ecpint.C15.zeroInf_map x hx).2

theorem zeroInfMap_image : zeroInfMap '' Ioo (-1) 1 = Ioi 0 := by
  have hl := log_two_pos
  -- the inverse map is y ↦ 1 − 2^(1−y)
  refine Subset.antisymm (image_subset_iff.2 fun x hx => ?_)
    fun y hy => ⟨1 - exp ((1 - y) * log 2), ⟨?_, ?_⟩, ?_⟩
  · rw [mem_preimage, mem_Ioi, zeroInfMap, sub_pos, div_lt_one hl]
    exact log_lt_log (by linarith only [hx.2]) (by linarith only [hx.1])
  · have : exp ((1 - y) * log 2) < exp (log 2) :=
      exp_lt_exp.2 (mul_lt_of_lt_one_left hl (by linarith only [mem_Ioi.1 hy]))
    rw [exp_log (by norm_num)] at this
    linarith only [this]
  · linarith only [exp_pos ((1 - y) * log 2)]
  · rw [zeroInfMap, sub_sub_cancel, log_exp, mul_div_assoc, div_self hl.ne', mul_one, sub_sub_cancel]

theorem zeroInfMap_injOn : InjOn zeroInfMap (Ioo (-1) 1) := fun x hx y hy h => by
  have h1 : log (1 - x) = log (1 - y) := (div_left_inj' log_two_pos.ne').1 (sub_right_inj.1 h)
  linarith only [log_injOn_pos (mem_Ioi.2 (sub_pos.2 hx.2)) (mem_Ioi.2 (sub_pos.2 hy.2)) h1]

theorem zeroInfMap_jacobian (g : ℝ → ℝ) (x : ℝ) (hx : x ∈ Ioo (-1 : ℝ) 1) :
    |1 / (log 2 * (1 - x))| • g (zeroInfMap x) = g (1 - log (1 - x) / log 2) / (log 2 * (1 - x)) := by
  have : 0 < log 2 * (1 - x) := mul_pos log_two_pos (sub_pos.2 hx.2)
  rw [abs_of_pos (one_div_pos.2 this), smul_eq_mul, zeroInfMap]
  ring

theorem zeroInf_change_of_variables (g : ℝ → ℝ) :
    ∫ r in Ioi (0 : ℝ), g r = ∫ x in (-1 : ℝ)..1, g (1 - log (1 - x) / log 2) / (log 2 * (1 - x)) := by
  rw [intervalIntegral.integral_of_le (by norm_num), integral_Ioc_eq_integral_Ioo, ← zeroInfMap_image,
    integral_image_eq_integral_abs_deriv_smul measurableSet_Ioo
      (fun x hx => (zeroInfMap_hasDerivAt x hx.2).hasDerivWithinAt) zeroInfMap_injOn]
  exact setIntegral_congr_fun measurableSet_Ioo (zeroInfMap_jacobian g)

theorem zeroInf_integrable_iff (g : ℝ → ℝ) :
    IntegrableOn g (Ioi 0) ↔
      IntervalIntegrable (fun x => g (1 - log (1 - x) / log 2) / (log 2 * (1 - x))) volume (-1) 1 := by
  rw [intervalIntegrable_iff_integrableOn_Ioo_of_le (by norm_num), ← zeroInfMap_image,
    integrableOn_image_iff_integrableOn_abs_deriv_smul measurableSet_Ioo
      (fun x hx => (zeroInfMap_hasDerivAt x hx.2).hasDerivWithinAt) zeroInfMap_injOn]
  exact integrableOn_congr_fun (zeroInfMap_jacobian g) measurableSet_Ioo

/-- the interior nodes lie strictly inside (−1, 1) (so `1 − x_i ≠ 0` in `transformZeroInf`) -/
theorem xOf_theta_mem_Ioo (n i : ℕ) (h0 : 0 < i) (hi : i ≤ n) : xOf (theta n i) ∈ Ioo (-1) 1 := by
  have hm := theta_mem n i (Nat.le_succ_of_le hi)
  have hpos : 0 < theta n i := theta_zero n ▸ theta_strictMono n h0
  have hlt : theta n i < π := theta_last n ▸ theta_strictMono n (Nat.lt_succ_of_le hi)
  constructor
  · rw [← xOf_pi]
    exact xOf_strictAntiOn hm ⟨pi_pos.le, le_refl _⟩ hlt
  · rw [← xOf_zero]
    exact xOf_strictAntiOn ⟨le_refl _, pi_pos.le⟩ hm hpos

/-- what the grid computes after `transformZeroInf` (x_i ↦ φ(x_i), w_i ↦ w_i/(ln 2·(1 − x_i))) is the original rule
applied to the transformed integrand -/
theorem T_zeroInf (g : ℝ → ℝ) (n : ℕ) :
    ∑ i ∈ Finset.range n, Ecpint.Quad.nodeW (sin (theta n (i + 1))) / (log 2 * (1 - xOf (theta n (i + 1))))
        * g (zeroInfMap (xOf (theta n (i + 1))))
      = T (fun x => g (zeroInfMap x) / (log 2 * (1 - x))) n := by
  simp only [T, term]
  apply Finset.sum_congr rfl
  intro i _
  ring

/-- convergence on the half line: if the transformed integrand extends continuously to [−1, 1] (g must decay faster
than 2^(−r)), the rule applied to it tends to ∫_0^∞ g -/
theorem zeroInf_rule_tendsto (g F : ℝ → ℝ) (hF : Continuous F)
    (hFg : ∀ x ∈ Ioo (-1 : ℝ) 1, F x = g (zeroInfMap x) / (log 2 * (1 - x))) :
    Tendsto (fun n : ℕ => rule F n) atTop (𝓝 (∫ r in Ioi (0 : ℝ), g r)) := by
  have e : ∫ x in (-1 : ℝ)..1, F x = ∫ r in Ioi (0 : ℝ), g r := by
    rw [zeroInf_change_of_variables, intervalIntegral.integral_of_le (by norm_num),
      intervalIntegral.integral_of_le (by norm_num), integral_Ioc_eq_integral_Ioo, integral_Ioc_eq_integral_Ioo]
    exact setIntegral_congr_fun measurableSet_Ioo hFg
  rw [← e]
  exact rule_tendsto_integral F hF

end Ecpint.C15b
