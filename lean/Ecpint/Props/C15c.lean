/-
C15c — the executable quadrature model (Ecpint/Model/Quad.lean), instantiated at ℝ, computes the Pérez-Jordá rule of C15b:
in exact arithmetic the value returned by `integrate` IS `rule F n` for the level n at which it stops.

The grid: for every odd size N the arrays of `initGrid` hold `w[i] = sin⁴ θ_{i+1}`, `x[i] = −x(θ_{i+1})`, θ_j = jπ/(N+1)
(`IsPJGrid`); the size chosen from `points` is 2^P − 1 resp. 3·2^P − 1 (exact logarithms).  The code's abscissae increase
with the index, so `w[i]·F(x[i])` is a term of the rule for the reflected integrand; the rule is symmetric (`rule_neg`).
The sums: unclipped, on a grid whose stride-s nodes are the nodes of the R-point rule, `sumTerms` adds the nodes
≡ ±1 mod 2·skip (`sumTerms_full`), the new part of `T_onePoint_step` resp. `T_twoPoint_step`.
The loops: one invariant each, "K pairs, e doublings to go", with the common exit condition `LoopExit`, for any sampled
integrand; the statements for the plain and the two transformed grids are instances.
The window: `start` clips only the first member of each visited pair and `stop` only its mirror image (`sumTerms_eq`); the
midpoint term and the two-point seed are added regardless.  So the result is NOT the rule of the integrand cut to
`[start, stop]` (`sumTerms_window`, `sumTerms_window_counterexample`); it is the same when the integrand vanishes outside
the window, which is how the library uses it (`integrate_window_of_zero`).
Not proved: anything about the acceptance tests (which level is chosen) beyond "flag false ⇒ finest rule".
-/
-- TRAP: order and set of these imports decide whether `/` in `winMin/winMax/winMid` and several end results is ℝ's or `instNumReal`'s
import Ecpint.Props.C15
import Ecpint.Props.C15b
import Ecpint.Lemmas.FoldSumFinset
import Mathlib.Algebra.Order.Floor.Defs
import Mathlib.Algebra.Order.Floor.Semiring
import Mathlib.Algebra.BigOperators.Intervals

namespace Ecpint.C15c
open Ecpint.Quad Ecpint.C15 Ecpint.C15b Real Ecpint.QuadLemmas Filter Topology

/-- exact real arithmetic as a scalar type of the quadrature model -/
noncomputable instance instNumReal : Ecpint.Quad.Num ℝ where
  sin := Real.sin
  cos := Real.cos
  log := Real.log
  sqrt := Real.sqrt
  abs := fun x => |x|
  pi := Real.pi
  floorNat := fun x => ⌊x⌋₊
  decLt := fun _ _ => Classical.propDecidable _
  decLe := fun _ _ => Classical.propDecidable _

theorem gridStep_eq (N : ℕ) (z1 c1 s1 o : ℝ) (acc : Array ℝ × Array ℝ × (ℝ × ℝ × ℝ)) (n : ℕ) :
    gridStep N z1 c1 s1 o acc n =
      ((acc.1.set! (N - 1 - n) (nodeX o acc.2.2.1 acc.2.2.2.1 acc.2.2.2.2)).set! n
          (-(nodeX o acc.2.2.1 acc.2.2.2.1 acc.2.2.2.2)),
       (acc.2.1.set! (N - 1 - n) (nodeW acc.2.2.2.1)).set! n (nodeW acc.2.2.2.1),
       trigStep z1 c1 s1 acc.2.2) := rfl

/-- the loop of `initGrid` is two array loops, one writing the abscissae and one the weights, for any sequence τ of triples
that follows the recurrence -/
theorem foldl_gridStep (N : ℕ) (z1 c1 s1 o : ℝ) (x0 w0 : Array ℝ) (τ : ℕ → ℝ × ℝ × ℝ)
    (hτ : ∀ n, τ (n + 1) = trigStep z1 c1 s1 (τ n)) (k : ℕ) :
    (List.range k).foldl (gridStep N z1 c1 s1 o) (x0, w0, τ 0) =
      ((List.range k).foldl (fun a n => (a.set! (N - 1 - n) (nodeX o (τ n).1 (τ n).2.1 (τ n).2.2)).set! n
          (-(nodeX o (τ n).1 (τ n).2.1 (τ n).2.2))) x0,
       (List.range k).foldl (fun a n => (a.set! (N - 1 - n) (nodeW (τ n).2.1)).set! n (nodeW (τ n).2.1)) w0,
       τ k) := by
  induction k with
  | zero => rfl
  | succ k ih =>
    simp only [List.range_succ, List.foldl_append, List.foldl_cons, List.foldl_nil]
    rw [ih, gridStep_eq, hτ]

theorem initGrid_eq (points : ℕ) (t : GCType) (N : ℕ) (hN : gridSize t (gridPower (α := ℝ) t points) = N) :
    let r := (List.range ((N - 1) / 2)).foldl
      (gridStep N (theta N 1) (cos (theta N 1)) (sin (theta N 1)) (2 / (3 * π)))
      ((Array.replicate N (0 : ℝ)).set! ((N - 1) / 2) 0, (Array.replicate N (0 : ℝ)).set! ((N - 1) / 2) 1,
        (theta N 1, sin (theta N 1), cos (theta N 1)))
    initGrid (α := ℝ) points t = { t := t, maxN := N, M := (N - 1) / 2, x := r.1, w := r.2.1 } := by
  subst hN
  have h1 : ∀ n : ℕ, theta n 1 = π / ((n + 1 : ℕ) : ℝ) := fun n => by
    simp only [theta]
    push_cast
    ring
  simp only [h1]
  rfl

/-- `g` is the Pérez-Jordá grid with N points, in the orientation of the code (abscissae increasing with the index:
`x[i] = −x(θ_{i+1})`, θ_j = jπ/(N+1)) -/
structure IsPJGrid (g : Grid ℝ) (N : ℕ) : Prop where
  maxN : g.maxN = N
  M : g.M = (N - 1) / 2
  w : ∀ i, i < N → g.w[i]? = some (sin (theta N (i + 1)) ^ 4)
  x : ∀ i, i < N → g.x[i]? = some (-(xOf (theta N (i + 1))))

/-- the size chosen by `initGrid` is odd whenever p ≥ 1 (2^p − 1, 3·2^p − 1: `initGrid_pow`) -/
theorem initGrid_spec (points : ℕ) (t : GCType) (N M : ℕ) (hN : gridSize t (gridPower (α := ℝ) t points) = N)
    (hodd : N = 2 * M + 1) : IsPJGrid (initGrid (α := ℝ) points t) N ∧ (initGrid (α := ℝ) points t).t = t := by
  rw [initGrid_eq points t N hN]
  subst hodd
  have hM : (2 * M + 1 - 1) / 2 = M := by omega
  have hmir : ∀ i, i < M → theta (2 * M + 1) (2 * M - i + 1) = π - theta (2 * M + 1) (i + 1) :=
    fun i h => theta_mirror _ _ _ (by omega)
  rw [hM, foldl_gridStep _ _ _ _ _ _ _
    (fun n => (theta (2 * M + 1) (n + 1), sin (theta (2 * M + 1) (n + 1)), cos (theta (2 * M + 1) (n + 1))))
    (fun n => by rw [trigStep_add, ← theta_succ])]
  refine ⟨⟨rfl, hM.symm, fun i hi => ?_, fun i hi => ?_⟩, rfl⟩
  · simp only [Nat.add_sub_cancel, nodeW_eq]
    exact getElem?_foldl_mirror_full _ _ (fun i => sin (theta (2 * M + 1) (i + 1)) ^ 4) M 0 1 (fun i _ => rfl)
      (by rw [theta_mid, sin_pi_div_two, one_pow]) (fun i h => by rw [hmir i h, sin_pi_sub]) i hi
  · simp only [Nat.add_sub_cancel, ← xOf_eq_nodeX]
    exact getElem?_foldl_mirror_full _ _ (fun i => -(xOf (theta (2 * M + 1) (i + 1)))) M 0 0 (fun i _ => rfl)
      (by rw [theta_mid, xOf_pi_div_two, neg_zero]) (fun i h => by rw [hmir i h, xOf_pi_sub, neg_neg]) i hi

theorem floor_log_two (x : ℝ) (P : ℕ) (h1 : (2 : ℝ) ^ P ≤ x) (h2 : x < (2 : ℝ) ^ (P + 1)) :
    ⌊Real.log x / Real.log 2⌋₊ = P := by
  have hl := log_two_pos
  have hx : 0 < x := lt_of_lt_of_le (by positivity) h1
  rw [Nat.floor_eq_iff (div_nonneg (Real.log_nonneg (le_trans (one_le_pow₀ (by norm_num)) h1)) hl.le)]
  constructor
  · rw [le_div_iff₀ hl, ← Real.log_pow]
    exact Real.log_le_log (by positivity) h1
  · rw [div_lt_iff₀ hl, ← Nat.cast_succ, ← Real.log_pow]
    exact Real.log_lt_log hx h2

theorem gridPower_onePoint (points P : ℕ) (h1 : 2 ^ P ≤ points + 1) (h2 : points + 1 < 2 ^ (P + 1)) :
    gridPower (α := ℝ) .onePoint points = P := by
  show ⌊Real.log ((points + 1 : ℕ) : ℝ) / Real.log ((2 : ℕ) : ℝ)⌋₊ = P
  rw [Nat.cast_ofNat]
  exact floor_log_two _ P (by exact_mod_cast h1) (by exact_mod_cast h2)

theorem gridPower_twoPoint (points P : ℕ) (h1 : 3 * 2 ^ P ≤ points + 2) (h2 : points + 2 < 3 * 2 ^ (P + 1)) :
    gridPower (α := ℝ) .twoPoint points = P := by
  show ⌊Real.log (((points + 2 : ℕ) : ℝ) / ((3 : ℕ) : ℝ)) / Real.log ((2 : ℕ) : ℝ)⌋₊ = P
  rw [Nat.cast_ofNat, Nat.cast_ofNat]
  apply floor_log_two
  · rw [le_div_iff₀ (by norm_num)]
    exact_mod_cast (Nat.mul_comm 3 (2 ^ P) ▸ h1 : 2 ^ P * 3 ≤ points + 2)
  · rw [div_lt_iff₀ (by norm_num)]
    exact_mod_cast (Nat.mul_comm 3 (2 ^ (P + 1)) ▸ h2 : points + 2 < 2 ^ (P + 1) * 3)

theorem initGrid_pow (points : ℕ) (t : GCType) (P : ℕ) (hP : 1 ≤ P) (h : gridPower (α := ℝ) t points = P) :
    IsPJGrid (initGrid (α := ℝ) points t) (gridSize t P) ∧ (initGrid (α := ℝ) points t).t = t := by
  obtain ⟨Q, rfl⟩ : ∃ Q, P = Q + 1 := ⟨P - 1, by omega⟩
  exact initGrid_spec points t _ _ (congrArg _ h) (gridSize_succ t Q)

theorem IsPJGrid.term_eq {g : Grid ℝ} {N : ℕ} (hg : IsPJGrid g N) (F : ℝ → ℝ) (i : ℕ) (hi : i < N) :
    g.w[i]! * F (g.x[i]!) = term (fun x => F (-x)) N (i + 1) := by
  rw [getElemBang_of_getElemOpt _ _ _ (hg.w i hi), getElemBang_of_getElemOpt _ _ _ (hg.x i hi), term, nodeW_eq]

theorem IsPJGrid.w_eq {g : Grid ℝ} {N : ℕ} (hg : IsPJGrid g N) (i : ℕ) (hi : i < N) :
    g.w[i]! = sin (((i : ℝ) + 1) * π / ((N : ℝ) + 1)) ^ 4 := by
  rw [getElemBang_of_getElemOpt _ _ _ (hg.w i hi), theta, Nat.cast_succ]

theorem IsPJGrid.x_eq {g : Grid ℝ} {N : ℕ} (hg : IsPJGrid g N) (i : ℕ) (hi : i < N) :
    g.x[i]! = -(xOf (((i : ℝ) + 1) * π / ((N : ℝ) + 1))) := by
  rw [getElemBang_of_getElemOpt _ _ _ (hg.x i hi), theta, Nat.cast_succ]

/-- what `GCQuadrature::sumTerms` adds, for any window: the first member of each pair is clipped from below only, the
mirrored member from above only -/
theorem sumTerms_eq (g : Grid ℝ) (f : ℕ → ℝ) (limit start stop shift skip : ℕ) :
    sumTerms g f limit start stop shift skip
      = ∑ j ∈ Finset.range (limit / 2 + 1),
          ((if start ≤ (skip * (2 * j) + 1) * shift - 1 then
              g.w[(skip * (2 * j) + 1) * shift - 1]! * f ((skip * (2 * j) + 1) * shift - 1) else 0)
           + (if g.maxN - ((skip * (2 * j) + 1) * shift - 1) - 1 ≤ stop then
              g.w[g.maxN - ((skip * (2 * j) + 1) * shift - 1) - 1]! * f (g.maxN - ((skip * (2 * j) + 1) * shift - 1) - 1) else 0)) := by
  unfold sumTerms sumIndices
  trans ((List.range (limit / 2 + 1)).map fun j =>
      ((skip * (2 * j) + 1) * shift - 1, g.maxN - ((skip * (2 * j) + 1) * shift - 1) - 1)).foldl
    (fun v p => v + ((if start ≤ p.1 then g.w[p.1]! * f p.1 else 0) + (if p.2 ≤ stop then g.w[p.2]! * f p.2 else 0))) 0
  · congr 1
    funext v p
    show (if p.2 ≤ stop then (if p.1 ≥ start then v + g.w[p.1]! * f p.1 else v) + g.w[p.2]! * f p.2
          else (if p.1 ≥ start then v + g.w[p.1]! * f p.1 else v)) = _
    split_ifs <;> ring
  · rw [FoldSum.foldl_add_eq_sum, zero_add, List.map_map, FoldSum.sum_map_range]
    rfl

/-- what both loops guarantee when entered with K pairs and e doublings to go on a grid with c·K·2^e panels (c = 4
one-point, c = 6 two-point): they leave after j ≤ e further doublings with the rule of n + 1 = c·K·2^j panels in the
accumulator, and j = e (n is the whole grid) unless the flag is set -/
def LoopExit (Φ : ℝ → ℝ) (c K e n : ℕ) (Tn : ℝ) (conv : Bool) : Prop :=
  ∃ j, j ≤ e ∧ n + 1 = c * K * 2 ^ j ∧ Tn = T Φ n ∧ (conv = false → j = e)

theorem LoopExit.now {Φ : ℝ → ℝ} {c K e n : ℕ} {Tn : ℝ} {conv : Bool} (hn : n + 1 = c * K) (hT : Tn = T Φ n)
    (h : conv = false → e = 0) : LoopExit Φ c K e n Tn conv :=
  ⟨0, Nat.zero_le e, by rw [pow_zero, mul_one, hn], hT, fun hc => (h hc).symm⟩

theorem LoopExit.later {Φ : ℝ → ℝ} {c K e n : ℕ} {Tn : ℝ} {conv : Bool} (h : LoopExit Φ c (2 * K) e n Tn conv) :
    LoopExit Φ c K (e + 1) n Tn conv := by
  obtain ⟨j, hj, hn, hT, hc⟩ := h
  refine ⟨j + 1, Nat.succ_le_succ hj, ?_, hT, fun h => by rw [hc h]⟩
  rw [hn, pow_succ]
  ring

theorem LoopExit.rule {Φ : ℝ → ℝ} {c e n : ℕ} {Tn : ℝ} {conv : Bool} (h : LoopExit (fun x => Φ (-x)) c 1 e n Tn conv) :
    ∃ j, j ≤ e ∧ 16 * Tn / (3 * ((n : ℝ) + 1)) = rule Φ (c * 2 ^ j - 1) ∧ (conv = false → j = e) := by
  obtain ⟨j, hj, hn, hT, hc⟩ := h
  rw [mul_one] at hn
  refine ⟨j, hj, ?_, hc⟩
  rw [hT, show c * 2 ^ j - 1 = n by omega, ← rule_neg]
  rfl

theorem onePointLoop_done (g : Grid ℝ) (f : ℕ → ℝ) (tol : ℝ) (a b fuel : ℕ) (s : OneSt ℝ)
    (h : s.conv = true ∨ g.maxN ≤ s.n) : onePointLoop g f tol a b fuel s = s := by
  cases fuel with
  | zero => rfl
  | succ fuel =>
    rw [onePointLoop, if_neg]
    rw [Bool.and_eq_true, Bool.not_eq_true', decide_eq_true_eq]
    rintro ⟨h1, h2⟩
    rcases h with h | h
    · rw [h] at h2
      cases h2
    · omega

theorem twoPointLoop_done (g : Grid ℝ) (f : ℕ → ℝ) (tol : ℝ) (a b fuel : ℕ) (s : TwoSt ℝ)
    (h : s.conv = true ∨ g.maxN ≤ s.m) : twoPointLoop g f tol a b fuel s = s := by
  cases fuel with
  | zero => rfl
  | succ fuel =>
    rw [twoPointLoop, if_neg]
    rw [Bool.and_eq_true, Bool.not_eq_true', decide_eq_true_eq]
    rintro ⟨h1, h2⟩
    rcases h with h | h
    · rw [h] at h2
      cases h2
    · omega

section
variable {g : Grid ℝ} {f : ℕ → ℝ} {Φ : ℝ → ℝ}
  (hterm : ∀ i, i < g.maxN → g.w[i]! * f i = term Φ g.maxN (i + 1))
include hterm

theorem grid_term {R s : ℕ} (j : ℕ) (hNs : g.maxN + 1 = (R + 1) * s) (hj : 1 ≤ j) (hjR : j ≤ R) :
    g.w[j * s - 1]! * f (j * s - 1) = term Φ R j := by
  rw [hterm _ (node_lt _ _ s j hNs hj (Nat.lt_succ_of_le hjR)),
    Nat.sub_add_cancel (Nat.mul_pos hj (stride_pos _ _ s hNs))]
  refine term_eq_of Φ ?_
  rw [hNs]
  ring

/-- the loop visits node `a = skip·2j + 1` together with its mirror image `R + 1 − a`; read backwards the mirror images are
the nodes `2·skip·(j + 1) − 1` (`pair_mirror`) -/
theorem sumTerms_full {limit R K s skip : ℕ} (hlim : limit / 2 + 1 = K) (hR : R + 1 = 2 * skip * K)
    (hNs : g.maxN + 1 = (R + 1) * s) :
    sumTerms g f limit 0 (g.maxN - 1) s skip
      = ∑ j ∈ Finset.range K, (term Φ R (2 * skip * j + 1) + term Φ R (2 * skip * (j + 1) - 1)) := by
  have hskip : 1 ≤ skip := Nat.pos_of_ne_zero fun h => by
    rw [h] at hR
    omega
  rw [Finset.sum_add_distrib, ← Finset.sum_range_reflect (fun j => term Φ R (2 * skip * (j + 1) - 1)) K,
    ← Finset.sum_add_distrib, sumTerms_eq, hlim]
  refine Finset.sum_congr rfl fun j hj => ?_
  have hjK : j < K := Finset.mem_range.1 hj
  have ha : skip * (2 * j) + 1 < R + 1 := hR ▸ pair_index_lt skip K j hskip hjK
  rw [if_pos (Nat.zero_le _), if_pos (by omega),
    mirror_index _ (R + 1) s _ hNs (Nat.mul_pos (Nat.succ_pos _) (stride_pos _ _ s hNs)),
    grid_term hterm _ hNs (Nat.le_add_left 1 _) (by omega), grid_term hterm _ hNs (by omega) (by omega), hR,
    pair_mirror skip K j hjK, Nat.mul_left_comm skip 2 j, ← Nat.mul_assoc]

/-- the update `T2n1 = Tn + sumTerms(f, n, 0, N−1, p, 2)` of the code; the pairs are the nodes 4j + 1 and 4j + 3, i.e. all
odd ones -/
theorem onePoint_step {n K s : ℕ} (hn : n + 1 = 2 * K) (hNs : g.maxN + 1 = (2 * n + 1 + 1) * s) :
    T Φ n + sumTerms g f n 0 (g.maxN - 1) s 2 = T Φ (2 * n + 1) := by
  rw [sumTerms_full hterm (K := K) (by omega) (by omega) hNs, T_onePoint_step, add_right_inj, hn,
    QuadReal.sum_range_mul_blocks (fun i => term Φ (2 * n + 1) (2 * i + 1)) 2 K]
  refine Finset.sum_congr rfl fun j _ => ?_
  rw [Finset.sum_range_succ, Finset.sum_range_one, show 2 * (2 * j + 0) + 1 = 2 * 2 * j + 1 by omega,
    show 2 * (2 * j + 1) + 1 = 2 * 2 * (j + 1) - 1 by omega]

/-- the update `T2m1 = Tm + Tn − Tn12 + sumTerms(f, (2m−1)/3, 0, N−1, M2, 3)` of the code -/
theorem twoPoint_step {m n k K s : ℕ} (hm : m + 1 = 3 * K) (hn : n + 1 = 2 * K) (hk : k + 1 = K)
    (hNs : g.maxN + 1 = (2 * m + 1 + 1) * s) :
    T Φ m + T Φ n - T Φ k + sumTerms g f ((2 * m - 1) / 3) 0 (g.maxN - 1) s 3 = T Φ (2 * m + 1) := by
  subst hk
  obtain rfl : m = 3 * k + 2 := by omega
  obtain rfl : n = 2 * k + 1 := by omega
  have e : 2 * (3 * k + 2) + 1 = 6 * k + 5 := by ring
  rw [e] at hNs ⊢
  rw [sumTerms_full hterm (K := k + 1) (by omega) (by omega) hNs, T_twoPoint_step, add_right_inj]
  refine Finset.sum_congr rfl fun j _ => ?_
  rw [show 2 * 3 * j + 1 = 6 * j + 1 by omega, show 2 * 3 * (j + 1) - 1 = 6 * j + 5 by omega]

theorem onePointLoop_spec (tol : ℝ) :
    ∀ (fuel e K : ℕ) (s : OneSt ℝ), e < fuel → g.maxN + 1 = 4 * K * 2 ^ e →
      s.n + 1 = 2 * K → s.p = 2 ^ e → s.Tn = T Φ s.n → s.conv = false →
      LoopExit Φ 4 K e (onePointLoop g f tol 0 (g.maxN - 1) fuel s).n (onePointLoop g f tol 0 (g.maxN - 1) fuel s).T2n1
        (onePointLoop g f tol 0 (g.maxN - 1) fuel s).conv := by
  intro fuel
  induction fuel with
  | zero =>
    intro e K s hf
    omega
  | succ fuel ih =>
    intro e K s hf hNs hn hp hTn hc
    have hKe : K ≤ K * 2 ^ e := Nat.le_mul_of_pos_right K (Nat.two_pow_pos e)
    have hlt : s.n < g.maxN := by
      rw [Nat.mul_assoc] at hNs
      omega
    have hnew : 2 * s.n + 1 + 1 = 4 * K := by omega
    have hstep : s.Tn + sumTerms g f s.n 0 (g.maxN - 1) s.p 2 = T Φ (2 * s.n + 1) := by
      rw [hTn]
      refine onePoint_step hterm hn ?_
      rw [hp, hnew]
      exact hNs
    have htest : (decide (s.n < g.maxN) && !s.conv) = true := by
      rw [hc, decide_eq_true hlt]
      rfl
    rw [onePointLoop, if_pos htest]
    dsimp only
    split
    · rw [onePointLoop_done _ _ _ _ _ _ _ (Or.inl rfl)]
      exact LoopExit.now hnew hstep fun h => by cases h
    · cases e with
      | zero =>
        -- the finest rule: n has reached the whole grid
        rw [onePointLoop_done _ _ _ _ _ _ _ (Or.inr (show g.maxN ≤ 2 * s.n + 1 by omega))]
        exact LoopExit.now hnew hstep fun _ => rfl
      | succ e =>
        refine (ih e (2 * K) _ (by omega) ?_ (show 2 * s.n + 1 + 1 = 2 * (2 * K) by omega) ?_ hstep rfl).later
        · rw [hNs, pow_succ]
          ring
        · show s.p / 2 = 2 ^ e
          rw [hp, pow_succ, Nat.mul_div_cancel _ (by norm_num)]

/-- at e = 0 the stride p = ⌊3·2^e/2⌋ is 1 and the companion value T2n1 is not a rule value; it only enters the acceptance
test of the last level -/
theorem twoPointLoop_spec (tol : ℝ) :
    ∀ (fuel e K : ℕ) (s : TwoSt ℝ), e < fuel → g.maxN + 1 = 6 * K * 2 ^ e →
      s.m + 1 = 3 * K → s.n + 1 = 2 * K → s.M2 = 2 ^ e → s.p = 3 * 2 ^ e / 2 →
      s.Tm = T Φ s.m → s.Tn = T Φ s.n → s.Tn12 = T Φ (K - 1) → s.conv = false →
      LoopExit Φ 6 K e (twoPointLoop g f tol 0 (g.maxN - 1) fuel s).m (twoPointLoop g f tol 0 (g.maxN - 1) fuel s).T2m1
        (twoPointLoop g f tol 0 (g.maxN - 1) fuel s).conv := by
  intro fuel
  induction fuel with
  | zero =>
    intro e K s hf
    omega
  | succ fuel ih =>
    intro e K s hf hNs hm hn hM2 hp hTm hTn hTn12 hc
    have hKe : K ≤ K * 2 ^ e := Nat.le_mul_of_pos_right K (Nat.two_pow_pos e)
    have hlt : s.m < g.maxN := by
      rw [Nat.mul_assoc] at hNs
      omega
    have hnew : 2 * s.m + 1 + 1 = 6 * K := by omega
    have hstep : s.Tm + s.Tn - s.Tn12 + sumTerms g f ((2 * s.m - 1) / 3) 0 (g.maxN - 1) s.M2 3 = T Φ (2 * s.m + 1) := by
      rw [hTm, hTn, hTn12]
      refine twoPoint_step hterm hm hn (by omega) ?_
      rw [hM2, hnew]
      exact hNs
    have htest : (decide (s.m < g.maxN) && !s.conv) = true := by
      rw [hc, decide_eq_true hlt]
      rfl
    rw [twoPointLoop, if_pos htest]
    dsimp only
    split
    · split
      · rw [twoPointLoop_done _ _ _ _ _ _ _ (Or.inl rfl)]
        exact LoopExit.now hnew hstep fun h => by cases h
      · cases e with
        | zero =>
          -- the finest rule: m has reached the whole grid
          rw [twoPointLoop_done _ _ _ _ _ _ _ (Or.inr (show g.maxN ≤ 2 * s.m + 1 by omega))]
          exact LoopExit.now hnew hstep fun _ => rfl
        | succ e =>
          have hp2 : 3 * 2 ^ (e + 1) / 2 = 3 * 2 ^ e := by
            rw [pow_succ, ← Nat.mul_assoc, Nat.mul_div_cancel _ (by norm_num)]
          have hone : s.Tn + sumTerms g f s.n 0 (g.maxN - 1) s.p 2 = T Φ (2 * s.n + 1) := by
            rw [hTn]
            refine onePoint_step hterm hn ?_
            rw [hp, hp2, show 2 * s.n + 1 + 1 = 4 * K by omega, hNs, pow_succ]
            ring
          refine (ih e (2 * K) _ (by omega) ?_ (show 2 * s.m + 1 + 1 = 3 * (2 * K) by omega)
            (show 2 * s.n + 1 + 1 = 2 * (2 * K) by omega) ?_ ?_ hstep hone
            (hTn.trans (congrArg (T Φ) (by omega))) rfl).later
          · rw [hNs, pow_succ]
            ring
          · show s.M2 / 2 = 2 ^ e
            rw [hM2, pow_succ, Nat.mul_div_cancel _ (by norm_num)]
          · show s.p / 2 = 3 * 2 ^ e / 2
            rw [hp, hp2]
    · rw [twoPointLoop_done _ _ _ _ _ _ _ (Or.inl rfl)]
      exact LoopExit.now hnew hstep fun h => by cases h

end

noncomputable def oneInit (g : Grid ℝ) (f : ℕ → ℝ) : OneSt ℝ :=
  { Tn := g.w[g.M]! * f g.M, Tn12 := ((2 : ℕ) : ℝ) * (g.w[g.M]! * f g.M), T2n1 := 0, n := 1, p := (g.M + 1) / 2, conv := false }

theorem integrate_onePoint_eq (g : Grid ℝ) (f : ℕ → ℝ) (tol : ℝ) (a b : ℕ) (ht : g.t = .onePoint) :
    integrate g f tol a b =
      (16 * (onePointLoop g f tol a b (g.maxN + 2) (oneInit g f)).T2n1
          / (3 * (((onePointLoop g f tol a b (g.maxN + 2) (oneInit g f)).n : ℝ) + 1)),
       (onePointLoop g f tol a b (g.maxN + 2) (oneInit g f)).conv) := by
  unfold integrate
  rw [ht]
  rfl

/-- `GCQuadrature::integrate`, one-point scheme, full range, on a grid with N = 2^P − 1 points whose products `w[i]·f(i)`
are the terms of the N-point rule for the reflected integrand (`hterm`): it returns `rule Φ n` for the level
n = 2^(j+1) − 1 ∈ {3, 7, …, N} at which it stops; if it reports non-convergence then n = N, the finest rule -/
theorem integrate_onePoint_rule (g : Grid ℝ) (f : ℕ → ℝ) (Φ : ℝ → ℝ) (tol : ℝ) (P : ℕ) (hP : 2 ≤ P)
    (ht : g.t = .onePoint) (hN : g.maxN = 2 ^ P - 1) (hM : g.M = (2 ^ P - 1 - 1) / 2)
    (hterm : ∀ i, i < 2 ^ P - 1 → g.w[i]! * f i = term (fun x => Φ (-x)) (2 ^ P - 1) (i + 1)) :
    ∃ j, 1 ≤ j ∧ j + 1 ≤ P ∧ (integrate g f tol 0 (2 ^ P - 1 - 1)).1 = rule Φ (2 ^ (j + 1) - 1) ∧
      ((integrate g f tol 0 (2 ^ P - 1 - 1)).2 = false → j + 1 = P) := by
  obtain ⟨e, rfl⟩ : ∃ e, P = e + 2 := ⟨P - 2, by omega⟩
  rw [← hN] at hM hterm ⊢
  have hx : 1 ≤ 2 ^ e := Nat.two_pow_pos e
  have h4 : ∀ i, 2 ^ (i + 2) = 4 * 2 ^ i := fun i => by
    rw [pow_add]
    ring
  rw [h4] at hN
  obtain ⟨hNs, hN2, hM', hp⟩ : g.maxN + 1 = 4 * 1 * 2 ^ e ∧ g.maxN + 1 = (1 + 1) * (2 * 2 ^ e) ∧ g.M = 1 * (2 * 2 ^ e) - 1 ∧
      (g.M + 1) / 2 = 2 ^ e := by omega
  have hfuel : e < g.maxN + 2 := by
    have := Nat.lt_two_pow_self (n := e)
    omega
  have hmid : g.w[g.M]! * f g.M = T (fun x => Φ (-x)) 1 := by
    rw [hM', T_one, grid_term hterm 1 hN2 le_rfl le_rfl]
  obtain ⟨j, hj, h1, h2⟩ := (onePointLoop_spec hterm tol (g.maxN + 2) e 1 (oneInit g f) hfuel hNs rfl hp hmid rfl).rule
  rw [integrate_onePoint_eq g f tol _ _ ht]
  refine ⟨j + 1, by omega, by omega, ?_, fun h => by rw [h2 h]⟩
  rw [h4]
  exact h1

noncomputable def twoInit (g : Grid ℝ) (f : ℕ → ℝ) : TwoSt ℝ :=
  { Tn12 := 0, Tn := g.w[g.M]! * f g.M,
    Tm := g.w[(g.maxN - 2) / 3]! * f ((g.maxN - 2) / 3)
            + g.w[g.maxN - (g.maxN - 2) / 3 - 1]! * f (g.maxN - (g.maxN - 2) / 3 - 1),
    T2m1 := 0, p := (g.M + 1) / 2, M2 := ((g.maxN - 2) / 3 + 1) / 2, n := 1, m := 2, conv := false }

theorem integrate_twoPoint_eq (g : Grid ℝ) (f : ℕ → ℝ) (tol : ℝ) (a b : ℕ) (ht : g.t = .twoPoint) :
    integrate g f tol a b =
      (16 * (twoPointLoop g f tol a b (g.maxN + 2) (twoInit g f)).T2m1
          / (3 * (((twoPointLoop g f tol a b (g.maxN + 2) (twoInit g f)).m : ℝ) + 1)),
       (twoPointLoop g f tol a b (g.maxN + 2) (twoInit g f)).conv) := by
  unfold integrate
  rw [ht]
  rfl

/-- the initial state of the two-point scheme on the grid with 6x − 1 points: the midpoint is node 1 of the 1-point rule
(stride 3x), the seed pair are nodes 1 and 2 of the 2-point rule (stride 2x) -/
theorem twoInit_indices (x N M : ℕ) (hx : 1 ≤ x) (hN : N = 3 * (2 * x) - 1) (hM : M = (N - 1) / 2) :
    N + 1 = 6 * 1 * x ∧ N + 1 = (1 + 1) * (3 * x) ∧ N + 1 = (2 + 1) * (2 * x) ∧ M = 1 * (3 * x) - 1 ∧
    (N - 2) / 3 = 1 * (2 * x) - 1 ∧ N - (N - 2) / 3 - 1 = 2 * (2 * x) - 1 ∧ ((N - 2) / 3 + 1) / 2 = x ∧
    (M + 1) / 2 = 3 * x / 2 := by
  have h1 : N + 1 = 6 * x := by omega
  have h2 : M + 1 = 3 * x := by omega
  have h3 : (N - 2) / 3 + 1 = 2 * x := by omega
  clear hN hM
  omega

/-- the same for the two-point scheme on N = 3·2^P − 1 points: `rule Φ m` for the level m = 3·2^j − 1 ∈ {5, 11, …, N} at
which it stops; if it reports non-convergence then m = N -/
theorem integrate_twoPoint_rule (g : Grid ℝ) (f : ℕ → ℝ) (Φ : ℝ → ℝ) (tol : ℝ) (P : ℕ) (hP : 1 ≤ P)
    (ht : g.t = .twoPoint) (hN : g.maxN = 3 * 2 ^ P - 1) (hM : g.M = (3 * 2 ^ P - 1 - 1) / 2)
    (hterm : ∀ i, i < 3 * 2 ^ P - 1 → g.w[i]! * f i = term (fun x => Φ (-x)) (3 * 2 ^ P - 1) (i + 1)) :
    ∃ j, 1 ≤ j ∧ j ≤ P ∧ (integrate g f tol 0 (3 * 2 ^ P - 1 - 1)).1 = rule Φ (3 * 2 ^ j - 1) ∧
      ((integrate g f tol 0 (3 * 2 ^ P - 1 - 1)).2 = false → j = P) := by
  obtain ⟨e, rfl⟩ : ∃ e, P = e + 1 := ⟨P - 1, by omega⟩
  rw [← hN] at hM hterm ⊢
  rw [pow_succ' 2 e] at hN
  obtain ⟨hNs, hN2, hN3, hM', hM2a, hmir, hM2, hp⟩ := twoInit_indices (2 ^ e) g.maxN g.M (Nat.two_pow_pos e) hN hM
  have hfuel : e < g.maxN + 2 := by
    have := Nat.lt_two_pow_self (n := e)
    omega
  have hmid : g.w[g.M]! * f g.M = T (fun x => Φ (-x)) 1 := by
    rw [hM', T_one, grid_term hterm 1 hN2 le_rfl le_rfl]
  have hseed : g.w[(g.maxN - 2) / 3]! * f ((g.maxN - 2) / 3)
      + g.w[g.maxN - (g.maxN - 2) / 3 - 1]! * f (g.maxN - (g.maxN - 2) / 3 - 1) = T (fun x => Φ (-x)) 2 := by
    rw [hmir, hM2a, T_two, grid_term hterm 1 hN3 le_rfl (by norm_num), grid_term hterm 2 hN3 (by norm_num) le_rfl]
  obtain ⟨j, hj, h1, h2⟩ := (twoPointLoop_spec hterm tol (g.maxN + 2) e 1 (twoInit g f)
    hfuel hNs rfl rfl hM2 hp hseed hmid (T_zero _).symm rfl).rule
  have h6 : 3 * 2 ^ (j + 1) = 6 * 2 ^ j := by
    rw [pow_succ]
    omega
  rw [integrate_twoPoint_eq g f tol _ _ ht]
  refine ⟨j + 1, by omega, by omega, ?_, fun h => by rw [h2 h]⟩
  rw [h6]
  exact h1

theorem integrate_onePoint (g : Grid ℝ) (F : ℝ → ℝ) (tol : ℝ) (P : ℕ) (hP : 2 ≤ P)
    (ht : g.t = .onePoint) (hg : IsPJGrid g (2 ^ P - 1)) :
    ∃ j, 1 ≤ j ∧ j + 1 ≤ P ∧
      (integrate g (fun i => F (g.x[i]!)) tol 0 (2 ^ P - 1 - 1)).1 = rule F (2 ^ (j + 1) - 1) ∧
      ((integrate g (fun i => F (g.x[i]!)) tol 0 (2 ^ P - 1 - 1)).2 = false → j + 1 = P) :=
  integrate_onePoint_rule g _ F tol P hP ht hg.maxN hg.M fun i hi => hg.term_eq F i hi

theorem integrate_twoPoint (g : Grid ℝ) (F : ℝ → ℝ) (tol : ℝ) (P : ℕ) (hP : 1 ≤ P)
    (ht : g.t = .twoPoint) (hg : IsPJGrid g (3 * 2 ^ P - 1)) :
    ∃ j, 1 ≤ j ∧ j ≤ P ∧
      (integrate g (fun i => F (g.x[i]!)) tol 0 (3 * 2 ^ P - 1 - 1)).1 = rule F (3 * 2 ^ j - 1) ∧
      ((integrate g (fun i => F (g.x[i]!)) tol 0 (3 * 2 ^ P - 1 - 1)).2 = false → j = P) :=
  integrate_twoPoint_rule g _ F tol P hP ht hg.maxN hg.M fun i hi => hg.term_eq F i hi

/-- end to end, one-point: `GCQuadrature::initGrid` followed by `integrate` over the full range, in exact arithmetic -/
theorem integrate_initGrid_onePoint (points P : ℕ) (hP : 2 ≤ P) (h1 : 2 ^ P ≤ points + 1) (h2 : points + 1 < 2 ^ (P + 1))
    (F : ℝ → ℝ) (tol : ℝ) :
    ∃ j, 1 ≤ j ∧ j + 1 ≤ P ∧
      (integrate (initGrid (α := ℝ) points .onePoint) (fun i => F ((initGrid (α := ℝ) points .onePoint).x[i]!)) tol 0
          (2 ^ P - 1 - 1)).1 = rule F (2 ^ (j + 1) - 1) ∧
      ((integrate (initGrid (α := ℝ) points .onePoint) (fun i => F ((initGrid (α := ℝ) points .onePoint).x[i]!)) tol 0
          (2 ^ P - 1 - 1)).2 = false → j + 1 = P) :=
  have h := initGrid_pow points .onePoint P (by omega) (gridPower_onePoint points P h1 h2)
  integrate_onePoint _ F tol P hP h.2 h.1

/-- end to end, two-point -/
theorem integrate_initGrid_twoPoint (points P : ℕ) (hP : 1 ≤ P) (h1 : 3 * 2 ^ P ≤ points + 2)
    (h2 : points + 2 < 3 * 2 ^ (P + 1)) (F : ℝ → ℝ) (tol : ℝ) :
    ∃ j, 1 ≤ j ∧ j ≤ P ∧
      (integrate (initGrid (α := ℝ) points .twoPoint) (fun i => F ((initGrid (α := ℝ) points .twoPoint).x[i]!)) tol 0
          (3 * 2 ^ P - 1 - 1)).1 = rule F (3 * 2 ^ j - 1) ∧
      ((integrate (initGrid (α := ℝ) points .twoPoint) (fun i => F ((initGrid (α := ℝ) points .twoPoint).x[i]!)) tol 0
          (3 * 2 ^ P - 1 - 1)).2 = false → j = P) :=
  have h := initGrid_pow points .twoPoint P hP (gridPower_twoPoint points P h1 h2)
  integrate_twoPoint _ F tol P hP h.2 h.1

/-- the integrand cut to the window -/
def window (start stop : ℕ) (f : ℕ → ℝ) : ℕ → ℝ := fun i => if start ≤ i ∧ i ≤ stop then f i else 0

theorem clip_lower (a b i : ℕ) (v : ℝ) (hab : a ≤ b) :
    (if a ≤ i then v else 0) = (if a ≤ i ∧ i ≤ b then v else 0) + (if b < i then v else 0) := by
  rcases Nat.lt_or_ge i a with h1 | h1
  · rw [if_neg (by omega), if_neg (by omega), if_neg (by omega), add_zero]
  · rcases Nat.lt_or_ge b i with h2 | h2
    · rw [if_pos h1, if_neg (by omega), if_pos h2, zero_add]
    · rw [if_pos h1, if_pos ⟨h1, h2⟩, if_neg (by omega), add_zero]

theorem clip_upper (a b i : ℕ) (v : ℝ) (hab : a ≤ b) :
    (if i ≤ b then v else 0) = (if a ≤ i ∧ i ≤ b then v else 0) + (if i < a then v else 0) := by
  rcases Nat.lt_or_ge b i with h2 | h2
  · rw [if_neg (by omega), if_neg (by omega), if_neg (by omega), add_zero]
  · rcases Nat.lt_or_ge i a with h1 | h1
    · rw [if_pos h2, if_neg (by omega), if_pos h1, zero_add]
    · rw [if_pos h2, if_pos ⟨h1, h2⟩, if_neg (by omega), add_zero]

/-- exact relation to the rule of the windowed integrand: the code keeps, in excess, the first members above `stop` and the
mirrored members below `start` -/
theorem sumTerms_window (g : Grid ℝ) (f : ℕ → ℝ) (limit start stop shift skip : ℕ) (h : start ≤ stop) :
    sumTerms g f limit start stop shift skip
      = sumTerms g (window start stop f) limit 0 (g.maxN - 1) shift skip
        + ∑ j ∈ Finset.range (limit / 2 + 1),
            ((if stop < (skip * (2 * j) + 1) * shift - 1 then
                g.w[(skip * (2 * j) + 1) * shift - 1]! * f ((skip * (2 * j) + 1) * shift - 1) else 0)
             + (if g.maxN - ((skip * (2 * j) + 1) * shift - 1) - 1 < start then
                g.w[g.maxN - ((skip * (2 * j) + 1) * shift - 1) - 1]! * f (g.maxN - ((skip * (2 * j) + 1) * shift - 1) - 1)
                else 0)) := by
  rw [sumTerms_eq, sumTerms_eq, ← Finset.sum_add_distrib]
  apply Finset.sum_congr rfl
  intro j _
  have hm : g.maxN - ((skip * (2 * j) + 1) * shift - 1) - 1 ≤ g.maxN - 1 := by omega
  rw [clip_lower start stop _ _ h, clip_upper start stop _ _ h, if_pos (Nat.zero_le _), if_pos hm]
  simp only [window, mul_ite, mul_zero]
  ring

theorem sumTerms_window_of_zero (g : Grid ℝ) (f : ℕ → ℝ) (limit start stop shift skip : ℕ)
    (hf : ∀ i, i < start ∨ stop < i → f i = 0) :
    sumTerms g f limit start stop shift skip = sumTerms g f limit 0 (g.maxN - 1) shift skip := by
  rw [sumTerms_eq, sumTerms_eq]
  refine Finset.sum_congr rfl fun j _ => ?_
  -- a term dropped by a test lies outside the window, where f vanishes
  rw [if_pos (Nat.zero_le _), if_pos (by omega : _ - 1 ≤ g.maxN - 1),
    ite_eq_left_iff.2 fun h => by rw [hf _ (Or.inl (by omega)), mul_zero],
    ite_eq_left_iff.2 fun h => by rw [hf _ (Or.inr (by omega)), mul_zero]]

theorem onePointLoop_window_of_zero (g : Grid ℝ) (f : ℕ → ℝ) (tol : ℝ) (start stop : ℕ)
    (hf : ∀ i, i < start ∨ stop < i → f i = 0) (fuel : ℕ) (s : OneSt ℝ) :
    onePointLoop g f tol start stop fuel s = onePointLoop g f tol 0 (g.maxN - 1) fuel s := by
  induction fuel generalizing s with
  | zero => rfl
  | succ fuel ih =>
    rw [onePointLoop, onePointLoop, sumTerms_window_of_zero g f _ start stop _ _ hf]
    simp only [ih]

theorem twoPointLoop_window_of_zero (g : Grid ℝ) (f : ℕ → ℝ) (tol : ℝ) (start stop : ℕ)
    (hf : ∀ i, i < start ∨ stop < i → f i = 0) (fuel : ℕ) (s : TwoSt ℝ) :
    twoPointLoop g f tol start stop fuel s = twoPointLoop g f tol 0 (g.maxN - 1) fuel s := by
  induction fuel generalizing s with
  | zero => rfl
  | succ fuel ih =>
    rw [twoPointLoop, twoPointLoop, sumTerms_window_of_zero g f _ start stop _ _ hf,
      sumTerms_window_of_zero g f _ start stop _ _ hf]
    simp only [ih]

/-- for ANY grid and either scheme, if the integrand vanishes outside `[start, stop]` then `integrate` with that
window returns exactly what it returns on the full range (value and flag) -/
theorem integrate_window_of_zero (g : Grid ℝ) (f : ℕ → ℝ) (tol : ℝ) (start stop : ℕ)
    (hf : ∀ i, i < start ∨ stop < i → f i = 0) :
    integrate g f tol start stop = integrate g f tol 0 (g.maxN - 1) := by
  unfold integrate
  simp only [onePointLoop_window_of_zero g f tol start stop hf, twoPointLoop_window_of_zero g f tol start stop hf]

/-- the excess is real: on the 7-point grid, last level of the one-point scheme (limit 3, stride 1), window [0, 3], integrand 1,
the code also adds node 4 (a first member above `stop`), so the result is not the sum for the windowed integrand -/
theorem sumTerms_window_counterexample (g : Grid ℝ) (hg : IsPJGrid g 7) :
    sumTerms g (fun _ => 1) 3 0 3 1 2 ≠ sumTerms g (window 0 3 (fun _ => 1)) 3 0 (g.maxN - 1) 1 2 := by
  have hpos : 0 < sin (theta 7 5) :=
    sin_pos_of_pos_of_lt_pi (theta_zero 7 ▸ theta_strictMono 7 (by norm_num : 0 < 5))
      (theta_last 7 ▸ theta_strictMono 7 (by norm_num : 5 < 7 + 1))
  have hw : (0 : ℝ) < g.w[4]! := by
    rw [getElemBang_of_getElemOpt _ _ _ (hg.w 4 (by norm_num))]
    exact pow_pos hpos 4
  rw [sumTerms_window g _ 3 0 3 1 2 (by norm_num), hg.maxN, ne_eq, add_eq_left]
  -- of the four excess terms (two pairs) only the first member of the second pair, node 4, is outside the window
  simp [Finset.sum_range_succ]
  exact hw.ne'

/-- lower end of the window of `transformRMinMax(z, p)`: max(0, p − 7/√z) -/
noncomputable def winMin (z p : ℝ) : ℝ := if 0 < p - 7 * (1 / Real.sqrt z) then p - 7 * (1 / Real.sqrt z) else 0
/-- upper end: p + 9/√z -/
noncomputable def winMax (z p : ℝ) : ℝ := p + 9 * (1 / Real.sqrt z)
/-- half-width `rmid` and offset `amid = rmid + rmin` of the affine map -/
noncomputable def winMid (z p : ℝ) : ℝ := 1 / 2 * (winMax z p - winMin z p)

noncomputable def winOff (z p : ℝ) : ℝ := winMid z p + winMin z p

theorem transformRMinMax_eq (g : Grid ℝ) (z p : ℝ) :
    transformRMinMax g z p =
      { g with x := g.x.map fun xi => winMid z p * xi + winOff z p, w := g.w.map fun wi => wi * winMid z p } := by
  simp only [transformRMinMax, winMid, winOff, winMax, winMin, Nat.cast_ofNat]
  rfl

theorem transformZeroInf_eq (g : Grid ℝ) :
    transformZeroInf g =
      { g with x := g.x.map fun xi => zeroInfMap xi,
               w := (Array.range g.maxN).map fun i => g.w[i]! / (Real.log 2 * ((1 : ℝ) - g.x[i]!)) } := by
  simp only [transformZeroInf, Nat.cast_ofNat, Nat.cast_one]
  rfl

theorem transformRMinMax_term {g : Grid ℝ} {N : ℕ} (hg : IsPJGrid g N) (z p : ℝ) (G : ℝ → ℝ) (i : ℕ) (hi : i < N) :
    (transformRMinMax g z p).w[i]! * G ((transformRMinMax g z p).x[i]!)
      = term (fun y => winMid z p * G (winMid z p * (-y) + winOff z p)) N (i + 1) := by
  rw [transformRMinMax_eq]
  simp only [getElem!_def, Array.getElem?_map, hg.w i hi, hg.x i hi, Option.map_some, term, nodeW_eq]
  ring

theorem transformZeroInf_term {g : Grid ℝ} {N : ℕ} (hg : IsPJGrid g N) (G : ℝ → ℝ) (i : ℕ) (hi : i < N) :
    (transformZeroInf g).w[i]! * G ((transformZeroInf g).x[i]!)
      = term (fun y => G (zeroInfMap (-y)) / (Real.log 2 * (1 - (-y)))) N (i + 1) := by
  rw [transformZeroInf_eq]
  simp only [getElem!_def, Array.getElem?_map, Array.getElem?_range, hg.maxN, hi, if_true, hg.w i hi, hg.x i hi,
    Option.map_some, term, nodeW_eq]
  ring

/-- window [rmin, rmax], one-point: on the affinely transformed grid, for r ↦ G(r) sampled at the transformed
abscissae, `integrate` is the rule of the transformed integrand x ↦ rmid·G(rmid·x + amid) -/
theorem integrate_onePoint_rMinMax (g : Grid ℝ) (G : ℝ → ℝ) (z p tol : ℝ) (P : ℕ) (hP : 2 ≤ P)
    (ht : g.t = .onePoint) (hg : IsPJGrid g (2 ^ P - 1)) :
    ∃ j, 1 ≤ j ∧ j + 1 ≤ P ∧
      (integrate (transformRMinMax g z p) (fun i => G ((transformRMinMax g z p).x[i]!)) tol 0 (2 ^ P - 1 - 1)).1
        = rule (fun x => winMid z p * G (winMid z p * x + winOff z p)) (2 ^ (j + 1) - 1) ∧
      ((integrate (transformRMinMax g z p) (fun i => G ((transformRMinMax g z p).x[i]!)) tol 0 (2 ^ P - 1 - 1)).2 = false
        → j + 1 = P) :=
  integrate_onePoint_rule _ _ _ tol P hP ht hg.maxN hg.M fun i hi => transformRMinMax_term hg z p G i hi

theorem integrate_twoPoint_rMinMax (g : Grid ℝ) (G : ℝ → ℝ) (z p tol : ℝ) (P : ℕ) (hP : 1 ≤ P)
    (ht : g.t = .twoPoint) (hg : IsPJGrid g (3 * 2 ^ P - 1)) :
    ∃ j, 1 ≤ j ∧ j ≤ P ∧
      (integrate (transformRMinMax g z p) (fun i => G ((transformRMinMax g z p).x[i]!)) tol 0 (3 * 2 ^ P - 1 - 1)).1
        = rule (fun x => winMid z p * G (winMid z p * x + winOff z p)) (3 * 2 ^ j - 1) ∧
      ((integrate (transformRMinMax g z p) (fun i => G ((transformRMinMax g z p).x[i]!)) tol 0 (3 * 2 ^ P - 1 - 1)).2 = false
        → j = P) :=
  integrate_twoPoint_rule _ _ _ tol P hP ht hg.maxN hg.M fun i hi => transformRMinMax_term hg z p G i hi

/-- half line, one-point: on the logarithmically transformed grid `integrate` is the rule of the transformed
integrand x ↦ G(1 − log(1−x)/ln 2)/(ln 2·(1−x)) (the integrand of C15b's `T_zeroInf`, `zeroInf_rule_tendsto`) -/
theorem integrate_onePoint_zeroInf (g : Grid ℝ) (G : ℝ → ℝ) (tol : ℝ) (P : ℕ) (hP : 2 ≤ P)
    (ht : g.t = .onePoint) (hg : IsPJGrid g (2 ^ P - 1)) :
    ∃ j, 1 ≤ j ∧ j + 1 ≤ P ∧
      (integrate (transformZeroInf g) (fun i => G ((transformZeroInf g).x[i]!)) tol 0 (2 ^ P - 1 - 1)).1
        = rule (fun x => G (zeroInfMap x) / (Real.log 2 * (1 - x))) (2 ^ (j + 1) - 1) ∧
      ((integrate (transformZeroInf g) (fun i => G ((transformZeroInf g).x[i]!)) tol 0 (2 ^ P - 1 - 1)).2 = false
        → j + 1 = P) :=
  integrate_onePoint_rule _ _ _ tol P hP ht hg.maxN hg.M fun i hi => transformZeroInf_term hg G i hi

theorem integrate_twoPoint_zeroInf (g : Grid ℝ) (G : ℝ → ℝ) (tol : ℝ) (P : ℕ) (hP : 1 ≤ P)
    (ht : g.t = .twoPoint) (hg : IsPJGrid g (3 * 2 ^ P - 1)) :
    ∃ j, 1 ≤ j ∧ j ≤ P ∧
      (integrate (transformZeroInf g) (fun i => G ((transformZeroInf g).x[i]!)) tol 0 (3 * 2 ^ P - 1 - 1)).1
        = rule (fun x => G (zeroInfMap x) / (Real.log 2 * (1 - x))) (3 * 2 ^ j - 1) ∧
      ((integrate (transformZeroInf g) (fun i => G ((transformZeroInf g).x[i]!)) tol 0 (3 * 2 ^ P - 1 - 1)).2 = false
        → j = P) :=
  integrate_twoPoint_rule _ _ _ tol P hP ht hg.maxN hg.M fun i hi => transformZeroInf_term hg G i hi

/-- the rule the windowed grid computes converges to ∫_{rmin}^{rmax} G for continuous G -/
theorem rMinMax_rule_tendsto (G : ℝ → ℝ) (hG : Continuous G) (z p : ℝ) (hz : 0 < z) (hp : 0 ≤ p) :
    Tendsto (fun n : ℕ => rule (fun x => winMid z p * G (winMid z p * x + winOff z p)) n) atTop
      (𝓝 (∫ r in (winMin z p)..(winMax z p), G r)) := by
  -- the affine rule converges whatever the endpoints: the signs of z and p play no part
  have _ := hz
  have _ := hp
  exact affine_rule_tendsto G hG (winMin z p) (winMax z p)

end Ecpint.C15c
