/-
C17 — copies of shells (and the value-type containers) are independent values.

Model: Ecpint/Model/GShell.lean (object/heap machine defined from the translator's CopySem table,
Gen/CopySem.lean, regenerated from gshell.hpp & co. by clang's AST on every run).
The theorems hold in every heap with the representation invariant `Inv`, hence (`self_pointing_inv`) in every heap
reachable by ANY sequence of element operations - and the standard containers only ever compose those
(copy-construct, assign, destroy).
-/
import Ecpint.Lemmas.GShell
import Ecpint.Gen.CopySem

namespace Ecpint.C17
open Ecpint.GShell

/-- **every copy operation of `GaussianShell` as written in the working tree (Gen/CopySem.lean) carries every
attribute (centre, exponents, coefficients, angular momentum, minimum exponent, atom index) and re-points a
local centre at the copy's own storage** — decided on the table extracted from the header. -/
theorem shell_copy_carries_all : Gen.shellSems.Carries := by decide +kernel

/-- the value-type classes (ECP, GaussianECP, multi-index arrays, quadrature grid, integrator,
ECP basis): no raw-pointer member, and every copy constructor / assignment — implicit or
user-written — mentions every member. -/
theorem value_classes_carry_all :
    ∀ c ∈ Gen.valueClasses, c.rawPointerFields = [] ∧
      (∀ f ∈ c.fields, f ∈ c.ctorCarried) ∧ (∀ f ∈ c.fields, f ∈ c.assignCarried) := by decide +kernel

theorem inv_empty : Inv Heap.empty := by
  intro o s h
  simp [Heap.empty] at h

/-- `n` is `h.next` for an overwrite and `h.next + 1` for a creation -/
theorem inv_set (h : Heap) (hi : Inv h) (k n : Nat) (v : Shell) (hk : k < n) (hn : h.next ≤ n)
    (hv : OwnCentre k v) : Inv { (h.set k (some v)) with next := n } := by
  intro o s hs
  simp only [Heap.set] at hs
  by_cases ho : o = k
  · subst ho
    simp only [if_true, Option.some.injEq] at hs
    subst hs
    exact ⟨hk, hv⟩
  · simp only [ho, if_false] at hs
    obtain ⟨h1, h2⟩ := hi o s hs
    exact ⟨Nat.lt_of_lt_of_le h1 hn, h2⟩

theorem inv_step (S : Sems) (hS : S.Carries) (h : Heap) (hi : Inv h) (op : Op) :
    Inv (step S h op) := by
  obtain ⟨hc, ha, hm⟩ := hS
  have hnew : ∀ v, OwnCentre h.next v → Inv { (h.set h.next (some v)) with next := h.next + 1 } :=
    fun v hv => inv_set h hi h.next _ v (Nat.lt_succ_self _) (Nat.le_succ _) hv
  have hold : ∀ o old v, h.objs o = some old → OwnCentre o v → Inv (h.set o (some v)) :=
    fun o old v ho hv => inv_set h hi o h.next v (hi o old ho).1 (Nat.le_refl _) hv
  cases op with
  | newExt b l => exact hnew _ ⟨by simp [blank], fun _ => ⟨b, rfl⟩⟩
  | newLocal a l => exact hnew _ ⟨fun _ => rfl, by simp⟩
  | copyCtor src =>
    simp only [step]
    cases hs : h.objs src with
    | none => exact hi
    | some s => exact hnew _ (ownCentre_applySem _ hc _ s _ (hi src s hs).2.2)
  | copyM src =>
    simp only [step]
    cases hs : h.objs src with
    | none => exact hi
    | some s => exact hnew _ (ownCentre_applySem _ hm _ s _ (hi src s hs).2.2)
  | assign dst src =>
    simp only [step]
    cases hd : h.objs dst with
    | none => exact hi
    | some d =>
      cases hs : h.objs src with
      | none => exact hi
      | some s => exact hold dst d _ hd (ownCentre_applySem _ ha _ s _ (hi src s hs).2.2)
  -- these write members the invariant does not speak of
  | addPrim o _ _ | setLocal o _ | setAtom o _ =>
    simp only [step]
    cases hs : h.objs o with
    | none => exact hi
    | some s => exact hold o s _ hs (hi o s hs).2
  | setExt b v => exact fun o s hs => hi o s hs
  | destroy o =>
    intro o' s hs
    simp only [step, Heap.set] at hs
    by_cases h' : o' = o
    · simp [h'] at hs
    · simp only [h', if_false] at hs
      exact hi o' s hs

/-- **every live local-centre shell points at its own storage, in every heap any operation
sequence (hence any container algorithm) can produce** -/
theorem inv_run (S : Sems) (hS : S.Carries) (ops : List Op) (h : Heap) (hi : Inv h) :
    Inv (run S h ops) :=
  List.foldlRecOn ops (step S) hi fun h hi op _ => inv_step S hS h hi op

/-- instantiated with the copy semantics of the working tree (`Gen.shellSems`) -/
theorem self_pointing_inv (ops : List Op) : Inv (run Gen.shellSems Heap.empty ops) :=
  inv_run _ shell_copy_carries_all ops _ inv_empty

/-- under the invariant no live shell ever dereferences dead or foreign storage -/
theorem no_dangling (h : Heap) (hi : Inv h) (o : Nat) (s : Shell) (hs : h.objs o = some s) :
    ∃ v, center h s = .val v := by
  obtain ⟨_, h2, h3⟩ := hi o s hs
  cases hl : s.localPtr
  · obtain ⟨b, hb⟩ := h3 hl
    exact ⟨some (h.ext b), by simp [center, hb]⟩
  · exact ⟨s.localCenter, by simp [center, h2 hl, hs]⟩

theorem view_congr (h h' : Heap) (o : Nat) (s : Shell) (hown : OwnCentre o s)
    (hext : h'.ext = h.ext) (hobj : h'.objs o = h.objs o) : view h' s = view h s := by
  simp only [view, View.mk.injEq, true_and, and_true]
  cases hl : s.localPtr
  · obtain ⟨b, hb⟩ := hown.2 hl
    simp only [center, hb, hext]
  · simp only [center, hown.1 hl, hobj]

theorem step_frame (S : Sems) (h : Heap) (op : Op) (o : Nat) (ht : target h op ≠ some o) :
    (step S h op).objs o = h.objs o ∧ ((∀ b v, op ≠ .setExt b v) → (step S h op).ext = h.ext) := by
  -- constructor by constructor: unfold `step`, split on which objects are live; what is left is `Heap.set` at an id ≠ o
  cases op <;>
    simp only [target, ne_eq, Option.some.injEq] at ht <;>
    simp only [step] <;>
    (repeat' split) <;>
    simp [Heap.set, Ne.symm ht]

/-- **independence**: an operation that writes or destroys some *other* object (or creates a new
one) changes nothing a user can observe of shell `o` — its attributes and the coordinates its
centre pointer yields.  (Writing a caller-owned buffer is excluded: sharing that buffer is the
documented purpose of the external-pointer constructor.) -/
theorem independence (S : Sems) (h : Heap) (hi : Inv h) (o : Nat) (s : Shell)
    (hs : h.objs o = some s) (op : Op) (ht : target h op ≠ some o)
    (hx : ∀ b v, op ≠ .setExt b v) :
    (step S h op).objs o = some s ∧ view (step S h op) s = view h s := by
  obtain ⟨hobj, hext⟩ := step_frame S h op o ht
  exact ⟨hobj.trans hs, view_congr _ _ o s (hi o s hs).2 (hext hx) hobj⟩

theorem view_applySem (c : CopySem) (hc : c.Carries) (h : Heap) (hi : Inv h) (src : Nat) (s : Shell)
    (hs : h.objs src = some s) (self n : Nat) (base : Shell) :
    view { (h.set self (some (applySem c self s base))) with next := n } (applySem c self s base) = view h s := by
  obtain ⟨lc, hlc⟩ := applySem_carries c hc self s base
  obtain ⟨_, h2, h3⟩ := hi src s hs
  rw [hlc]
  simp only [view, View.mk.injEq, copied, true_and, and_true]
  -- an external centre is read from the same caller buffer, a local one from the copy's own `localCenter` (carried)
  cases hl : s.localPtr
  · obtain ⟨b, hb⟩ := h3 hl
    simp [center, hb, Heap.set]
  · simp [center, h2 hl, Heap.set, hs]

/-- **a copy carries all attributes**: the new object made by copy construction shows exactly what the original shows -/
theorem copyCtor_equal (S : Sems) (hS : S.Carries) (h : Heap) (hi : Inv h) (src : Nat) (s : Shell)
    (hs : h.objs src = some s) :
    ∃ s', (step S h (.copyCtor src)).objs h.next = some s' ∧
      view (step S h (.copyCtor src)) s' = view h s := by
  simp only [step, hs]
  exact ⟨_, by simp [Heap.set], view_applySem _ hS.1 h hi src s hs _ _ _⟩

theorem copyMethod_equal (S : Sems) (hS : S.Carries) (h : Heap) (hi : Inv h) (src : Nat) (s : Shell)
    (hs : h.objs src = some s) :
    ∃ s', (step S h (.copyM src)).objs h.next = some s' ∧
      view (step S h (.copyM src)) s' = view h s := by
  simp only [step, hs]
  exact ⟨_, by simp [Heap.set], view_applySem _ hS.2.2 h hi src s hs _ _ _⟩

/-- assignment `dst = src` (distinct live objects) makes `dst` show what `src` shows -/
theorem assign_equal (S : Sems) (hS : S.Carries) (h : Heap) (hi : Inv h) (dst src : Nat)
    (d s : Shell) (hd : h.objs dst = some d) (hs : h.objs src = some s) (hne : dst ≠ src) :
    ∃ d', (step S h (.assign dst src)).objs dst = some d' ∧
      view (step S h (.assign dst src)) d' = view h s := by
  simp only [step, hs, hd]
  exact ⟨_, by simp [Heap.set], view_applySem _ hS.2.1 h hi src s hs dst h.next d⟩

/-! ### non-vacuity and the historical counter-model -/

/-- the implicit member-wise assignment (what the header had before the repair): the pointer is
copied verbatim.  It does NOT carry in the sense above … -/
def implicitAssign : CopySem :=
  { userDefined := false, carried := Field.all, carriedIfLocal := [], repoint := false }

example : ¬ implicitAssign.Carries := by decide +kernel

/-- … and `b = a; destroy a` then leaves `b` dangling: the invariant is really needed. -/
example :
    let S : Sems := { Gen.shellSems with assign := implicitAssign }
    let h := run S Heap.empty [.newLocal 7 1, .newLocal 8 2, .assign 1 0, .destroy 0]
    (h.objs 1).map (center h) = some .dangling := by decide +kernel

/-- with the semantics of the working tree (`Gen.shellSems`) the same history is fine -/
example :
    let h := run Gen.shellSems Heap.empty [.newLocal 7 1, .newLocal 8 2, .assign 1 0, .destroy 0]
    (h.objs 1).map (center h) = some (.val (some 7)) := by decide +kernel

end Ecpint.C17
